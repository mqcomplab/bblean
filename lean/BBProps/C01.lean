/-
C01 — every fitted fingerprint ends in exactly one cluster.

After any history (`List Op`, run by `runWith` / `run` from `init cfg`) of fit, refine, recluster, set_merge, setters,
delete_internal_nodes and reset, under any decisions satisfying `Policy.Valid` (the code's own: `refPolicy`), the
reported clusters (`Est.clusters`) partition the labels `0 .. numFitted-1`; with `reinsert_indices` they hold the
inserted labels with multiplicities.  Not modelled: sparse input, global clustering, a change of counter width between
fits of equal byte length.  That the Python estimator behaves as the model is compared on generated histories, not proved.
-/
import BBProofs.Ops
import BBProofs.RefPolicy
import BBProofs.GenEq2
import BBProofs.GenEq6

namespace BB

/-- well-formedness of an operation for feature count `F`.  Of the rows of a `fit` only the first is constrained: at
any other malformed row the fit fails and keeps the rows before it. -/
def Op.WF (F : Nat) : Op → Prop
  | .fit rows labels => labels = none ∧ ∀ r0, rows.head? = some r0 → r0.length = F
  | .refine _ data _ _ => ∀ r ∈ data, r.length = F
  | .setMerge _ _ _ b => ∀ b', b = some b' → 2 ≤ b'
  | .setBf b => 2 ≤ b
  | _ => True

/-- `Op.WF` = `Op.WFL` + "labels implicit" -/
theorem C01_wf_iff_wfl (F : Nat) (op : Op) :
    op.WF F ↔ op.WFL F ∧ ∀ rows labels, op = .fit rows labels → labels = none := by
  cases op with
  | fit rows labels =>
    exact ⟨fun h => ⟨h.2, fun _ _ he => by cases he; exact h.1⟩, fun h => ⟨h.2 _ _ rfl, h.1⟩⟩
  | _ => exact ⟨fun h => ⟨h, fun _ _ he => by cases he⟩, fun h => h.1⟩

theorem along_of_wf (pol : Cfg → Policy) {F : Nat} {ops : List Op} (e : Est) (hwf : ∀ op ∈ ops, op.WF F) :
    Along pol (fun e op => OpOK pol F (fun _ => True) e op ∧ op.Implicit) e ops :=
  (along_const e hwf).mono fun e op h =>
    ⟨opOK_true e op ((C01_wf_iff_wfl F op).mp h).1, ((C01_wf_iff_wfl F op).mp h).2⟩

/-- the invariant (`EInv`) behind the partition -/
theorem C01_invariant (pol : Cfg → Policy) (hpol : ∀ cfg, (pol cfg).Valid) (cfg : Cfg) (hbf : 2 ≤ cfg.bf)
    (F : Nat) (ops : List Op) (hwf : ∀ op ∈ ops, op.WF F) :
    EInv F (fun _ => True) (runWith pol (init cfg) ops) :=
  (EInv.init F _ cfg hbf).run hpol (fun _ _ => trivial) (along_of_wf pol _ hwf)

/-- **C01 (policy-generic)**: the reported clusters, sorted or in leaf order, are a permutation
of the labels `0 .. numFitted-1` — every label in exactly one cluster, none invented -/
theorem C01_partition_generic (pol : Cfg → Policy) (hpol : ∀ cfg, (pol cfg).Valid) (cfg : Cfg)
    (hbf : 2 ≤ cfg.bf) (F : Nat) (ops : List Op) (hwf : ∀ op ∈ ops, op.WF F) (sort : Bool) :
    ((runWith pol (init cfg) ops).clusters sort).flatten.Perm
      (List.range (runWith pol (init cfg) ops).numFitted) :=
  clusters_perm (C01_invariant pol hpol cfg hbf F ops hwf) sort

/-- **C01** for the decisions the code takes (`refPolicy`), any exp table -/
theorem C01_partition (X : ExpTab) (cfg : Cfg) (hbf : 2 ≤ cfg.bf) (F : Nat) (ops : List Op)
    (hwf : ∀ op ∈ ops, op.WF F) (sort : Bool) :
    ((run X (init cfg) ops).clusters sort).flatten.Perm (List.range (run X (init cfg) ops).numFitted) :=
  C01_partition_generic (refPolicy X) (refPolicy_valid X) cfg hbf F ops hwf sort

/-- `numFitted` is the number of labels reported -/
theorem C01_count (X : ExpTab) (cfg : Cfg) (hbf : 2 ≤ cfg.bf) (F : Nat) (ops : List Op)
    (hwf : ∀ op ∈ ops, op.WF F) (sort : Bool) :
    ((run X (init cfg) ops).clusters sort).flatten.length = (run X (init cfg) ops).numFitted := by
  have := (C01_partition X cfg hbf F ops hwf sort).length_eq
  simpa using this

/-- no label occurs twice, neither inside a cluster nor in two clusters -/
theorem C01_nodup (X : ExpTab) (cfg : Cfg) (hbf : 2 ≤ cfg.bf) (F : Nat) (ops : List Op)
    (hwf : ∀ op ∈ ops, op.WF F) (sort : Bool) :
    ((run X (init cfg) ops).clusters sort).flatten.Nodup :=
  (C01_partition X cfg hbf F ops hwf sort).nodup_iff.mpr List.nodup_range

/-- every label below `numFitted` is in some cluster, and nothing else is -/
theorem C01_mem (X : ExpTab) (cfg : Cfg) (hbf : 2 ≤ cfg.bf) (F : Nat) (ops : List Op)
    (hwf : ∀ op ∈ ops, op.WF F) (sort : Bool) (i : Nat) :
    (∃ c ∈ (run X (init cfg) ops).clusters sort, i ∈ c) ↔ i < (run X (init cfg) ops).numFitted := by
  have := (C01_partition X cfg hbf F ops hwf sort).mem_iff (a := i)
  simpa [List.mem_flatten] using this

/-- by definition of the model: `reset()` returns to the freshly constructed estimator, so a history is the history
since the last reset -/
theorem C01_reset (pol : Cfg → Policy) (e : Est) : (stepWith pol e .reset).1 = init e.cfg := rfl

/-! A fit that fails at its third row, a refinement, a re-clustering, a change of settings, deletion of internal nodes
and a reset satisfy `Op.WF 3`. -/
example : ∀ op ∈ ([.fit [[true, true, false], [true, false, false], [true], [false, true, true]] none,
      .refine 1 [[true, true, false], [true, false, false]] 0 true, .recluster 2 (1/20) [some [1, 0], none] true,
      .setMerge (some (.name "tolerance-diameter")) (some (1/10)) none (some 3), .delInternal, .reset,
      .fit [[false, false, true]] none] : List Op), op.WF 3 := by
  intro op hop
  simp only [List.mem_cons, List.not_mem_nil, or_false] at hop
  rcases hop with rfl | rfl | rfl | rfl | rfl | rfl | rfl <;> simp [Op.WF]

/-! ## C01 with explicit labels

`fit(X, reinsert_indices=ls)` inserts row `i` under the label `ls[i]`: any number, possibly a duplicate or one colliding
with an implicit label.  `labelsOf` (`BBProofs/Ops.lean`) accumulates, through the model's own step function, the labels
of the rows each `fit` inserted before it stopped (`ls.zip rows` truncates); `reset` forgets them.  `Op.WFL F` is
`Op.WF F` without `labels = none`: no condition on the labels. -/

/-- the invariant (`LInv`) behind C01 with labels -/
theorem C01_labels_invariant (pol : Cfg → Policy) (hpol : ∀ cfg, (pol cfg).Valid) (cfg : Cfg) (hbf : 2 ≤ cfg.bf)
    (F : Nat) (ops : List Op) (hwf : ∀ op ∈ ops, op.WFL F) :
    LInv F (labelsOf pol (init cfg) ops : List Nat) (runWith pol (init cfg) ops) :=
  Inv.run (L := []) (carried_true hpol fun _ _ => trivial) (Inv.of_init trivial cfg hbf)
    ((along_const _ hwf).mono fun e op h => opOK_true e op h)

/-- **C01 with labels (policy-generic)**: the report, sorted or in leaf order, holds exactly `labelsOf`, with
multiplicities.  `labelsOf` reads the number of rows a fit inserted off the model's `numFitted`; that these are the rows
before the first malformed one is `opLabels_fit` (`BBProofs/Ops.lean`). -/
theorem C01_labels_generic (pol : Cfg → Policy) (hpol : ∀ cfg, (pol cfg).Valid) (cfg : Cfg)
    (hbf : 2 ≤ cfg.bf) (F : Nat) (ops : List Op) (hwf : ∀ op ∈ ops, op.WFL F) (sort : Bool) :
    ((((runWith pol (init cfg) ops).clusters sort).flatten : List Nat) : Multiset Nat)
      = (labelsOf pol (init cfg) ops : List Nat) :=
  clusters_labels (C01_labels_invariant pol hpol cfg hbf F ops hwf) sort

/-- **C01 with labels** for the decisions the code takes (`refPolicy`), any exp table -/
theorem C01_labels (X : ExpTab) (cfg : Cfg) (hbf : 2 ≤ cfg.bf) (F : Nat) (ops : List Op)
    (hwf : ∀ op ∈ ops, op.WFL F) (sort : Bool) :
    ((((run X (init cfg) ops).clusters sort).flatten : List Nat) : Multiset Nat)
      = (labelsOf (refPolicy X) (init cfg) ops : List Nat) :=
  C01_labels_generic (refPolicy X) (refPolicy_valid X) cfg hbf F ops hwf sort

/-- the same as a permutation of lists -/
theorem C01_labels_perm (X : ExpTab) (cfg : Cfg) (hbf : 2 ≤ cfg.bf) (F : Nat) (ops : List Op)
    (hwf : ∀ op ∈ ops, op.WFL F) (sort : Bool) :
    ((run X (init cfg) ops).clusters sort).flatten.Perm (labelsOf (refPolicy X) (init cfg) ops) :=
  Multiset.coe_eq_coe.mp (C01_labels X cfg hbf F ops hwf sort)

/-- distinct inserted labels are reported once each -/
theorem C01_labels_nodup (X : ExpTab) (cfg : Cfg) (hbf : 2 ≤ cfg.bf) (F : Nat) (ops : List Op)
    (hwf : ∀ op ∈ ops, op.WFL F) (sort : Bool) (hnd : (labelsOf (refPolicy X) (init cfg) ops).Nodup) :
    ((run X (init cfg) ops).clusters sort).flatten.Nodup :=
  (C01_labels_perm X cfg hbf F ops hwf sort).nodup_iff.mpr hnd

/-- a label occurs in the report exactly as often as it was inserted -/
theorem C01_labels_count_eq (X : ExpTab) (cfg : Cfg) (hbf : 2 ≤ cfg.bf) (F : Nat) (ops : List Op)
    (hwf : ∀ op ∈ ops, op.WFL F) (sort : Bool) (i : Nat) :
    ((run X (init cfg) ops).clusters sort).flatten.count i = (labelsOf (refPolicy X) (init cfg) ops).count i :=
  (C01_labels_perm X cfg hbf F ops hwf sort).count_eq i

/-- a label is in some cluster iff it was inserted since the last reset -/
theorem C01_labels_mem (X : ExpTab) (cfg : Cfg) (hbf : 2 ≤ cfg.bf) (F : Nat) (ops : List Op)
    (hwf : ∀ op ∈ ops, op.WFL F) (sort : Bool) (i : Nat) :
    (∃ c ∈ (run X (init cfg) ops).clusters sort, i ∈ c) ↔ i ∈ labelsOf (refPolicy X) (init cfg) ops := by
  have := (C01_labels_perm X cfg hbf F ops hwf sort).mem_iff (a := i)
  simpa [List.mem_flatten] using this

/-- `numFitted` is the number of rows inserted since the last reset (also after `refine` / `recluster`, which
recompute it) and the number of labels reported -/
theorem C01_labels_count (X : ExpTab) (cfg : Cfg) (hbf : 2 ≤ cfg.bf) (F : Nat) (ops : List Op)
    (hwf : ∀ op ∈ ops, op.WFL F) (sort : Bool) :
    (run X (init cfg) ops).numFitted = (labelsOf (refPolicy X) (init cfg) ops).length ∧
    ((run X (init cfg) ops).clusters sort).flatten.length = (run X (init cfg) ops).numFitted := by
  have h1 : (run X (init cfg) ops).numFitted = (labelsOf (refPolicy X) (init cfg) ops).length := by
    simpa [run] using (C01_labels_invariant (refPolicy X) (refPolicy_valid X) cfg hbf F ops hwf).cnt
  exact ⟨h1, by rw [h1]; exact (C01_labels_perm X cfg hbf F ops hwf sort).length_eq⟩

/-- with implicit labels (`Op.WF`) the inserted labels are `0 .. numFitted-1`, in this order -/
theorem C01_labels_implicit (pol : Cfg → Policy) (hpol : ∀ cfg, (pol cfg).Valid) (cfg : Cfg)
    (hbf : 2 ≤ cfg.bf) (F : Nat) (ops : List Op) (hwf : ∀ op ∈ ops, op.WF F) :
    labelsOf pol (init cfg) ops = List.range (runWith pol (init cfg) ops).numFitted :=
  labelsAcc_range (e := init cfg) (carried_true hpol fun _ _ => trivial)
    (Inv.of_init (Q := fun _ => True) (I := fun _ => True) trivial cfg hbf) (along_of_wf pol _ hwf)

/-- `C01_partition_generic` as the instance `labels = none` (`C01_labels_implicit`) of `C01_labels_generic` -/
example (pol : Cfg → Policy) (hpol : ∀ cfg, (pol cfg).Valid) (cfg : Cfg)
    (hbf : 2 ≤ cfg.bf) (F : Nat) (ops : List Op) (hwf : ∀ op ∈ ops, op.WF F) (sort : Bool) :
    ((runWith pol (init cfg) ops).clusters sort).flatten.Perm
      (List.range (runWith pol (init cfg) ops).numFitted) := by
  rw [← C01_labels_implicit pol hpol cfg hbf F ops hwf]
  exact Multiset.coe_eq_coe.mp (C01_labels_generic pol hpol cfg hbf F ops
    (fun op h => ((C01_wf_iff_wfl F op).mp (hwf op h)).1) sort)

/-- a `fit` with explicit labels whose rows are all well-formed, the internal nodes still there, adds `ls` truncated to
the number of rows -/
theorem C01_labels_fit (pol : Cfg → Policy) (hpol : ∀ cfg, (pol cfg).Valid) (cfg : Cfg)
    (hbf : 2 ≤ cfg.bf) (F : Nat) (ops : List Op) (hwf : ∀ op ∈ ops, op.WFL F)
    (rows : List Row) (ls : List Nat) (hrows : ∀ r ∈ rows, r.length = F)
    (hlo : (runWith pol (init cfg) ops).st.isLeavesOnly = false) :
    labelsOf pol (init cfg) (ops ++ [.fit rows (some ls)])
      = labelsOf pol (init cfg) ops ++ ls.take rows.length := by
  rw [labelsOf_snoc]
  simp only [stepLabels]
  rw [opLabels_fit_all F _ (C01_labels_invariant pol hpol cfg hbf F ops hwf).fF rows ls hrows hlo]

/-- `reset` forgets the labels -/
theorem C01_labels_reset (pol : Cfg → Policy) (cfg : Cfg) (ops ops' : List Op) :
    labelsOf pol (init cfg) (ops ++ .reset :: ops')
      = labelsOf pol (init (runWith pol (init cfg) ops).cfg) ops' :=
  labelsOf_reset pol _ ops ops'

/-! Duplicate and implicit labels, a fit failing at its second row, more rows than labels, `delete_internal_nodes` after
a split: the report holds exactly `labelsOf`. -/
example :
    let X : ExpTab := { E := fun _ => 0, off := 0 }
    let cfg : Cfg := { thr := 13/20, bf := 2, merge := { crit := .diameter } }
    let ops : List Op :=
      [.fit [[true, true, false], [true, true, false], [false, false, true]] (some [5, 5, 9]),
       .fit [[false, true, true]] none,
       .fit [[true, true, false], [true], [true, false, false]] (some [7, 8, 8]),
       .fit [[false, false, true], [false, true, true]] (some [3]),
       .delInternal]
    (∀ op ∈ ops, op.WFL 3) ∧
    labelsOf (refPolicy X) (init cfg) ops = [5, 5, 9, 3, 7, 3] ∧
    (run X (init cfg) ops).clusters false = [[5, 5, 7], [9, 3], [3]] ∧
    (run X (init cfg) ops).numFitted = 6 := by
  intro X cfg ops
  refine ⟨?_, ?_, ?_, ?_⟩
  · intro op hop
    simp only [ops, List.mem_cons, List.not_mem_nil, or_false] at hop
    rcases hop with rfl | rfl | rfl | rfl | rfl <;> simp [Op.WFL]
  all_goals decide +kernel

/-! ## The same for the code itself

`BBGen.*` is the Lean text that `tools/py2lean.py` writes from the Python source (here `_BFSubcluster` of `bitbirch.py`)
each time the check runs; `PV`: the Python / NumPy values of `BBModel/PyNum.lean`. -/

/-- code: `update` and an accepted `merge_subcluster` concatenate the two member lists; a rejected merge leaves the
member list alone -/
theorem C01_code_member_lists (expf : Rat → Rat) (m : MergeFn) (thr : Rat) (c s : Clu) (child scent schild : PV)
    (hc : CluOk c) (hs : CluOk s) (hlen : c.ls.length = s.ls.length) (hn : c.n + s.n < 2 ^ 53)
    (hnew : SumOk (c.mergedSummary s)) (hold : SumOk c.summary) (hO : 1 ≤ c.n) :
    (BBGen._BFSubcluster_update expf (bufOf c) (PV.arr .u8 (pack c.cent)) child (PV.arr .big c.ids)
        (bufOf s) scent schild (PV.arr .big s.ids)).getD 3 PV.pynone = PV.arr .big (c.ids ++ s.ids)
    ∧ (BBGen._BFSubcluster_merge_subcluster expf (bufOf c) (PV.arr .u8 (pack c.cent)) child (PV.arr .big c.ids)
        (bufOf s) scent schild (PV.arr .big s.ids) (PV.flt (some thr)) (objOf expf m)).getD 4 PV.pynone
      = PV.arr .big (if accept m (tabOf expf) thr (c.mergedSummary s) c.summary s.summary then c.ids ++ s.ids else c.ids) := by
  constructor
  · rw [gen_update expf c s child scent schild hc hs hlen hn]
    simp [stateOf, Clu.update]
  · rw [gen_merge_subcluster expf m thr c s child scent schild hc hs hlen hn hnew hold hO]
    by_cases ha : accept m (tabOf expf) thr (c.mergedSummary s) c.summary s.summary = true
    · simp [ha, stateOf, Clu.merge]
    · simp [ha, stateOf]

/-- code: a fitted fingerprint enters the tree as a singleton carrying its own label, the row as sums and centroid -/
theorem C01_code_singleton (expf : Rat → Rat) (r : Row) (label : Nat) (wi : W) (nf : PV) (check : Bool) :
    BBGen._BFSubcluster_init expf (PV.arr .u8 (rowToNat r)) (PV.arr wi [label]) nf PV.pynone (PV.bool check)
      = PV.pynone :: stateOf (Clu.ofRow r label) PV.pynone :=
  gen_subcluster_init_row expf r label wi nf check

end BB
