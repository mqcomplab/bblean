/-
C07 — conformance to the BitBIRCH insertion algorithm.

The model with `refPolicy` (`BBModel/Estimator.lean`: the code's own decisions) is the executable specification the
correspondence ties to the code; the theorems say that it has the clauses the property lists.  `ins`, `insertLeaf`,
`splitNode` (`BBModel/Tree.lean`) take a `Policy`; `splitNode` distributes a node's entries by `P.mask` of its search
cache and `refPolicy.mask = refMask`, so `C07_seeds`, `C07_mask`, `C07_split_nonempty` describe every split.
Partial: for the routing kernel and `_split_node`, code = specification is differential only; for the case structure of
the insertion step, given their results, it is proved (code part).  The legacy implementations are not modelled
(three-way differential only).
-/
import BBProofs.RefPolicy
import BBProofs.GenEq3
import BBProofs.GenEq2
import BBProofs.GenEq13

namespace BB

/-- at every level the fingerprint descends to the most Tanimoto-similar cached centroid, the first on ties -/
theorem C07_route (X : ExpTab) (cfg : Cfg) (cache : List Row) (c : Row) (hne : cache ≠ []) :
    (refPolicy X cfg).route cache c < cache.length ∧
    (∀ (j : Nat) (hj : j < cache.length),
      jtBits cache[j] c ≤ jtBits (cache[(refPolicy X cfg).route cache c]'(refRoute_lt X cfg cache c hne)) c) ∧
    (∀ (j : Nat) (hj : j < (refPolicy X cfg).route cache c),
      jtBits (cache[j]'(lt_trans hj (refRoute_lt X cfg cache c hne))) c <
        jtBits (cache[(refPolicy X cfg).route cache c]'(refRoute_lt X cfg cache c hne)) c) := by
  refine ⟨refRoute_lt X cfg cache c hne, fun j hj => ?_, fun j hj => ?_⟩
  · have := argmaxFirst_max (jtArrVec cache c) j (by rw [jtArrVec_length]; exact hj)
    rwa [jtArrVec_getElem, jtArrVec_getElem] at this
  · have := argmaxFirst_first (jtArrVec cache c) j hj
    rwa [jtArrVec_getElem, jtArrVec_getElem] at this

/-- read off the definition of `ins`: when the child of the routed entry does not come back over-full, that entry alone
changes — summary updated with the nominee, child replaced, cache row refreshed -/
theorem C07_descend (P : Policy) (h : Nat) (t : InnerN (Tree h)) (s : Clu) (next : Nat) (c : Clu) (child : Tree h)
    (hsome : t.ents[P.route t.cache s.cent]? = some (c, child)) (hno : (ins P h child s next).over = false) :
    (ins P (h + 1) t s next).node =
      ({ cap := t.cap, ents := t.ents.set (P.route t.cache s.cent) (c.update s, (ins P h child s next).node),
         cache := t.cache.set (P.route t.cache s.cent) (c.update s).cent } : InnerN (Tree h)) := by
  simp only [ins, hsome, hno]
  rfl

/-- read off the definition of `insertLeaf`: the nominee is merged into the routed cluster if the criterion accepts,
appended as a new cluster if not -/
theorem C07_leaf (P : Policy) (l : LeafN) (s : Clu) (next : Nat) (c : Clu) (hne : l.subs.isEmpty = false)
    (hsome : l.subs[P.route l.cache s.cent]? = some c) :
    (P.accept c s = true → (insertLeaf P l s next).node.subs = l.subs.set (P.route l.cache s.cent) (c.merge s)) ∧
    (P.accept c s = false → (insertLeaf P l s next).node.subs = l.subs ++ [s]) := by
  constructor <;> intro ha <;> simp [insertLeaf, hne, hsome, ha]

/-- by definition of `refPolicy`: its merge decision is the configured criterion on the summaries (merged, old,
nominee); that the code decides so is `C07_code_leaf` -/
theorem C07_accept (X : ExpTab) (cfg : Cfg) (c s : Clu) :
    (refPolicy X cfg).accept c s = accept cfg.merge X cfg.thr (c.mergedSummary s) c.summary s.summary := rfl

/-- the seeds of a split: the entry least similar to the centroid of the node's centroids, then the entry least
similar to that one; the similarity vectors are those to these two rows -/
theorem C07_seeds (Y : List Row) (hne : Y ≠ []) :
    (mostDissimilar Y).1 < Y.length ∧ (mostDissimilar Y).2.1 < Y.length ∧
    (mostDissimilar Y).2.2.1 = Y.map (fun y => jtBits y (Y.getD (mostDissimilar Y).1 [])) ∧
    (mostDissimilar Y).2.2.2 = Y.map (fun y => jtBits y (Y.getD (mostDissimilar Y).2.1 [])) ∧
    (mostDissimilar Y).1 = argminFirst (Y.map (fun y => jtBits y (centroidFromSum (colSum Y) Y.length))) ∧
    (mostDissimilar Y).2.1 = argminFirst (mostDissimilar Y).2.2.1 :=
  mostDissimilar_proj Y hne

/-- an entry moves to the new node iff it is the first seed or strictly closer to it than to the second -/
theorem C07_mask (cache : List Row) (j : Nat) (hj : j < cache.length) :
    (refMask cache)[j]'(by rw [refMask_length]; exact hj) =
      (decide (j = (mostDissimilar cache).1) ||
        decide (jtBits cache[j] (cache.getD (mostDissimilar cache).2.1 []) <
          jtBits cache[j] (cache.getD (mostDissimilar cache).1 []))) :=
  refMask_getElem cache j hj

/-- both halves of a split are non-empty, for any entries (duplicates, all-zero rows): the first seed moves, some other
entry stays (`_split_node` carries a TODO asking this) -/
theorem C07_split_nonempty (cache : List Row) (h2 : 2 ≤ cache.length) :
    (refMask cache)[(mostDissimilar cache).1]? = some true ∧
    ∃ j, j < cache.length ∧ j ≠ (mostDissimilar cache).1 ∧ (refMask cache)[j]? = some false :=
  refMask_both_sides cache h2

/-- the code's decisions form a valid policy, so every policy-generic theorem (C01, C02, C08, C09) applies -/
theorem C07_valid (X : ExpTab) (cfg : Cfg) : (refPolicy X cfg).Valid := refPolicy_valid X cfg

/-! `route` on a cache whose first two rows both equal the query: index 0. -/
example : (refPolicy { E := fun _ => 1, off := 0 } { thr := 1/2, bf := 2, merge := { crit := .diameter } }).route
    [[true, false], [true, false], [false, true]] [true, false] = 0 := by decide +kernel

/-! ## The same for the code itself

`BBGen.*` is the Lean text that `tools/py2lean.py` writes from the Python source (here `_BFSubcluster.merge_subcluster`
and `_BFNode.insert_bf_subcluster` of `bitbirch.py`) each time the check runs. -/

/-- code: at a leaf the nominee is merged into the chosen entry iff `refPolicy`'s `accept` says so, and the entry then
is the model's merged cluster; otherwise it is untouched (the caller appends the nominee) -/
theorem C07_code_leaf (expf : Rat → Rat) (cfg : Cfg) (c s : Clu) (child scent schild : PV)
    (hc : CluOk c) (hs : CluOk s) (hlen : c.ls.length = s.ls.length) (hn : c.n + s.n < 2 ^ 53)
    (hnew : SumOk (c.mergedSummary s)) (hold : SumOk c.summary) (hO : 1 ≤ c.n) :
    BBGen._BFSubcluster_merge_subcluster expf (bufOf c) (PV.arr .u8 (pack c.cent)) child (PV.arr .big c.ids)
        (bufOf s) scent schild (PV.arr .big s.ids) (PV.flt (some cfg.thr)) (objOf expf cfg.merge)
      = if (refPolicy (tabOf expf) cfg).accept c s = true
        then PV.bool true :: stateOf (c.merge s) child
        else PV.bool false :: stateOf c child :=
  gen_merge_subcluster expf cfg.merge cfg.thr c s child scent schild hc hs hlen hn hnew hold hO

/-! `_BFNode.insert_bf_subcluster`.  Result: the "split me" flag, the entry list, the centroid cache, the calls made on
other objects.  Inputs: the routing decision, whether the closest entry has a child, the result of the merge attempt or
of the recursive call, the halves returned by `_split_node` (`BBProofs/GenEq13.lean`). -/

/-- code (1): an empty node takes the nominee as its only entry -/
theorem C07_code_insert_empty (expf : Rat → Rat) (buf log : List Nat) (h c : Nat) (hb : 0 < buf.length)
    (fn thr x1 x2 x3 x4 x5 x6 x7 x8 x9 x10 x11 : PV) :
    BBGen._BFNode_insert_bf_subcluster expf (PV.arr .big []) (PV.arr .big buf) (PV.arr .big log) (PV.int h) fn thr
        x1 x2 x3 x4 x5 x6 x7 x8 x9 x10 x11 (PV.int c)
      = [PV.bool false, PV.arr .big [h], PV.arr .big (buf.set 0 c), PV.arr .big log] :=
  gen_insert_empty expf buf log h c hb fn thr x1 x2 x3 x4 x5 x6 x7 x8 x9 x10 x11

/-- code (2)/(3): at a leaf exactly one `merge_subcluster` call, on the routed entry; accepted: entries unchanged, its
cache row refreshed, no split; refused: the nominee is appended, and a split is asked for iff there are now more than
`branching_factor` entries -/
theorem C07_code_insert_leaf (expf : Rat → Rat) (subs buf log : List Nat) (h c i cNew : Nat)
    (hne : subs ≠ []) (hi : i < subs.length) (hlen : subs.length < buf.length) (fn thr x1 x2 x5 x7 x8 x9 x10 x11 : PV) :
    BBGen._BFNode_insert_bf_subcluster expf (PV.arr .big subs) (PV.arr .big buf) (PV.arr .big log) (PV.int h) fn thr
        x1 x2 (PV.int i) PV.pynone (PV.int cNew) (PV.bool true) x7 x8 x9 x10 x11 (PV.int c)
      = [PV.bool false, PV.arr .big subs, PV.arr .big (buf.set i cNew), PV.arr .big (log ++ [1, subs[i], h])] ∧
    BBGen._BFNode_insert_bf_subcluster expf (PV.arr .big subs) (PV.arr .big buf) (PV.arr .big log) (PV.int h) fn thr
        x1 x2 (PV.int i) PV.pynone x5 (PV.bool false) x7 x8 x9 x10 x11 (PV.int c)
      = [PV.bool (decide (buf.length - 1 < subs.length + 1)), PV.arr .big (subs ++ [h]), PV.arr .big (buf.set subs.length c),
         PV.arr .big (log ++ [1, subs[i], h])] :=
  ⟨gen_insert_leaf_merge expf subs buf log h c i cNew hne hi hlen fn thr x1 x2 x7 x8 x9 x10 x11,
   gen_insert_leaf_append expf subs buf log h c i hne hi hlen fn thr x1 x2 x5 x7 x8 x9 x10 x11⟩

/-- code (4)/(5): at an inner node exactly one recursive call, on the routed entry's child; if the child must be split,
`_split_node` is called on it, the first half replaces the tracking entry, the second is appended, and a split is asked
for as in (3); otherwise the tracking entry is updated and its cache row refreshed.  `hfirst`: `update_split_subclusters` finds the split entry by `list.index`, so `i` has to be the first
occurrence of its handle. -/
theorem C07_code_insert_inner (expf : Rat → Rat) (subs buf log : List Nat) (h i tok h1 h2 c1 c2 cUpd : Nat)
    (hne : subs ≠ []) (hi : i < subs.length) (hlen : subs.length < buf.length) (hfirst : subs.idxOf? subs[i] = some i)
    (fn thr x1 x5 x6 x7 x8 x9 x10 x11 xc : PV) :
    BBGen._BFNode_insert_bf_subcluster expf (PV.arr .big subs) (PV.arr .big buf) (PV.arr .big log) (PV.int h) fn thr
        x1 (PV.bool true) (PV.int i) (PV.int tok) x5 x6 (PV.int h1) (PV.int c1) (PV.int h2) (PV.int c2) x11 xc
      = [PV.bool (decide (buf.length - 1 < subs.length + 1)), PV.arr .big (subs.set i h1 ++ [h2]),
         PV.arr .big ((buf.set i c1).set subs.length c2), PV.arr .big (log ++ [2, tok, h, 3, tok])] ∧
    BBGen._BFNode_insert_bf_subcluster expf (PV.arr .big subs) (PV.arr .big buf) (PV.arr .big log) (PV.int h) fn thr
        (PV.int cUpd) (PV.bool false) (PV.int i) (PV.int tok) x5 x6 x7 x8 x9 x10 x11 xc
      = [PV.bool false, PV.arr .big subs, PV.arr .big (buf.set i cUpd), PV.arr .big (log ++ [2, tok, h, 4, subs[i], h])] :=
  ⟨gen_insert_inner_split expf subs buf log h i tok h1 h2 c1 c2 hne hi hlen hfirst fn thr x1 x5 x6 x11 xc,
   gen_insert_inner_update expf subs buf log h i tok cUpd hne hi hlen fn thr x5 x6 x7 x8 x9 x10 x11 xc⟩

/-- code vs model at a leaf: given the model's routing decision and acceptance as `closest_idx` and
`merge_was_successful`, and `cap = len(buf) - 1`, the code's flag and number of entries are those of `insertLeaf` -/
theorem C07_code_leaf_conforms (expf : Rat → Rat) (P : Policy) (l : LeafN) (s cl : Clu) (next : Nat)
    (subs buf log : List Nat) (h c cNew : Nat) (hne : subs ≠ []) (hlen : subs.length < buf.length)
    (hl : l.subs.length = subs.length) (hcap : l.cap = buf.length - 1)
    (hi : P.route l.cache s.cent < subs.length) (hc : l.subs[P.route l.cache s.cent]? = some cl)
    (fn thr x1 x2 x7 x8 x9 x10 x11 : PV) :
    let out := BBGen._BFNode_insert_bf_subcluster expf (PV.arr .big subs) (PV.arr .big buf) (PV.arr .big log) (PV.int h) fn thr
        x1 x2 (PV.int (P.route l.cache s.cent)) PV.pynone (PV.int cNew) (PV.bool (P.accept cl s)) x7 x8 x9 x10 x11 (PV.int c)
    out.getD 0 PV.pynone = PV.bool (insertLeaf P l s next).over ∧
    PV.len (out.getD 1 PV.pynone) = PV.int (insertLeaf P l s next).node.subs.length := by
  intro out
  have hlne : l.subs ≠ [] := by
    intro h0; rw [h0] at hl; simp at hl; exact hne (List.eq_nil_of_length_eq_zero hl.symm)
  obtain ⟨_, hacc, hrej⟩ := insertLeaf_cases P l s next
  cases ha : P.accept cl s with
  | true =>
    obtain ⟨h1, h2⟩ := hacc cl hlne hc ha
    have := gen_insert_leaf_merge expf subs buf log h c (P.route l.cache s.cent) cNew hne hi hlen fn thr x1 x2 x7 x8 x9 x10 x11
    simp only [out, ha, this, List.getD_cons_zero, List.getD_cons_succ, h1, h2, PV.len_arr, hl]
    exact ⟨trivial, trivial⟩
  | false =>
    obtain ⟨h1, h2⟩ := hrej cl hlne hc ha
    have := gen_insert_leaf_append expf subs buf log h c (P.route l.cache s.cent) hne hi hlen fn thr x1 x2 (PV.int cNew) x7 x8 x9 x10 x11
    simp only [out, ha, this, List.getD_cons_zero, List.getD_cons_succ, h1, h2, PV.len_arr, hl, hcap, List.length_append,
      List.length_singleton]
    exact ⟨trivial, by push_cast⟩

/-- code vs model at an inner node: given the model's routing decision and the over-full flag of its recursive insertion
as `closest_idx` and `child_must_be_split`, the code's flag and number of entries are those of `ins (h+1)` -/
theorem C07_code_inner_conforms (expf : Rat → Rat) (P : Policy) (h : Nat) (t : InnerN (Tree h)) (s c : Clu) (child : Tree h)
    (next : Nat) (subs buf log : List Nat) (hd tok h1 h2 c1 c2 cUpd : Nat)
    (hne : subs ≠ []) (hlen : subs.length < buf.length) (hl : t.ents.length = subs.length) (hcap : t.cap = buf.length - 1)
    (hi : P.route t.cache s.cent < subs.length) (hc : t.ents[P.route t.cache s.cent]? = some (c, child))
    (hfirst : subs.idxOf? subs[P.route t.cache s.cent] = some (P.route t.cache s.cent))
    (fn thr x5 x6 x11 xc : PV) :
    let out := BBGen._BFNode_insert_bf_subcluster expf (PV.arr .big subs) (PV.arr .big buf) (PV.arr .big log) (PV.int hd) fn thr
        (PV.int cUpd) (PV.bool (ins P h child s next).over) (PV.int (P.route t.cache s.cent)) (PV.int tok) x5 x6
        (PV.int h1) (PV.int c1) (PV.int h2) (PV.int c2) x11 xc
    out.getD 0 PV.pynone = PV.bool (ins P (h + 1) t s next).over ∧
    PV.len (out.getD 1 PV.pynone) = PV.int ((ins P (h + 1) t s next).node : InnerN (Tree h)).ents.length := by
  intro out
  obtain ⟨hov, hno⟩ := ins_cases P h t s next c child hc
  cases ho : (ins P h child s next).over with
  | true =>
    obtain ⟨e1, e2⟩ := hov ho
    have := gen_insert_inner_split expf subs buf log hd (P.route t.cache s.cent) tok h1 h2 c1 c2 hne hi hlen hfirst
      fn thr (PV.int cUpd) x5 x6 x11 xc
    simp only [out, ho, this, List.getD_cons_zero, List.getD_cons_succ, e1, e2, PV.len_arr, hl, hcap, List.length_append,
      List.length_set, List.length_singleton]
    exact ⟨trivial, by push_cast⟩
  | false =>
    obtain ⟨e1, e2⟩ := hno ho
    have := gen_insert_inner_update expf subs buf log hd (P.route t.cache s.cent) tok cUpd hne hi hlen
      fn thr x5 x6 (PV.int h1) (PV.int c1) (PV.int h2) (PV.int c2) x11 xc
    simp only [out, ho, this, List.getD_cons_zero, List.getD_cons_succ, e1, e2, PV.len_arr, hl]
    exact ⟨trivial, trivial⟩

end BB
