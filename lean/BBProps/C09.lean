/-
C09 — re-insertion only coarsens clusters.

Re-clustering never separates fingerprints that were in one cluster; refinement separates only members of the `n`
largest clusters; every other cluster re-enters the tree as an indivisible unit (`.recluster`, `.refine` of
`BBModel/Estimator.lean`; sorted reports compared by `CoarsensL`).  The multi-round clause is covered only at the level
of one batch re-insertion (`C09_units`); no theorem here speaks of `multiround` (the round-file protocol: C05 / C06).
-/
import BBProps.C01

namespace BB

/-- every member list of `A` is contained in one member list of `B` -/
def CoarsensL (A B : List (List Nat)) : Prop := ∀ a ∈ A, ∃ b ∈ B, ∀ i ∈ a, i ∈ b

theorem coarsensL_of (A : List Clu) (B : List Clu) (h : Coarsens (A : Multiset Clu) (B : Multiset Clu)) :
    CoarsensL (A.map (·.ids)) (B.map (·.ids)) := by
  intro a ha
  obtain ⟨c, hc, rfl⟩ := List.mem_map.mp ha
  obtain ⟨b, hb, hsub⟩ := h c (Multiset.mem_coe.mpr hc)
  exact ⟨b.ids, List.mem_map_of_mem (Multiset.mem_coe.mp hb), hsub⟩

theorem coarsensL_report (A : List Clu) (e' : Est) (hok : e'.st.OK) (h : Coarsens (A : Multiset Clu) e'.st.lclusM) :
    CoarsensL (A.map (·.ids)) (e'.clusters true) := by
  rw [← sortedClus_coe hok] at h
  exact coarsensL_of A _ h

/-- **C09 (recluster)**: from every reachable state, for all arguments, each cluster before is contained in one after -/
theorem C09_recluster (X : ExpTab) (cfg : Cfg) (hbf : 2 ≤ cfg.bf) (F : Nat) (ops : List Op)
    (hwf : ∀ op ∈ ops, op.WF F) (iters : Nat) (extra : Rat) (perms : List (Option (List Nat))) (stop : Bool) :
    CoarsensL ((run X (init cfg) ops).clusters true)
      ((step X (run X (init cfg) ops) (.recluster iters extra perms stop)).1.clusters true) := by
  have hinv := C01_invariant (refPolicy X) (refPolicy_valid X) cfg hbf F ops hwf
  have hinv' : EInv F (fun _ => True) (step X (run X (init cfg) ops) (.recluster iters extra perms stop)).1 :=
    hinv.step (refPolicy_valid X) (fun _ _ => trivial) (opOK_true _ _ trivial) (fun _ _ h => by cases h)
  refine coarsensL_report (run X (init cfg) ops).st.sortedClus _ hinv'.ok ?_
  rw [run, sortedClus_coe hinv.ok]
  exact recluster_coarsens (refPolicy_valid X) hinv iters extra perms stop

/-- **C09 (refine)**: every cluster except the `n` largest (in report order) is contained in one cluster after; with C01
the exploded ones are merely redistributed -/
theorem C09_refine (X : ExpTab) (cfg : Cfg) (hbf : 2 ≤ cfg.bf) (F : Nat) (ops : List Op)
    (hwf : ∀ op ∈ ops, op.WF F) (n : Int) (data : List Row) (im : Nat) (srt : Bool) (hdata : ∀ r ∈ data, r.length = F) :
    CoarsensL (((run X (init cfg) ops).clusters true).drop n.toNat)
      ((step X (run X (init cfg) ops) (.refine n data im srt)).1.clusters true) := by
  have hinv := C01_invariant (refPolicy X) (refPolicy_valid X) cfg hbf F ops hwf
  have hinv' : EInv F (fun _ => True) (step X (run X (init cfg) ops) (.refine n data im srt)).1 :=
    hinv.step (refPolicy_valid X) (fun _ _ => trivial) (opOK_true _ _ hdata) (fun _ _ h => by cases h)
  rw [show ((run X (init cfg) ops).clusters true).drop n.toNat
      = ((run X (init cfg) ops).st.sortedClus.drop n.toNat).map (·.ids) by simp [Est.clusters, List.map_drop]]
  exact coarsensL_report _ _ hinv'.ok (refine_coarsens (refPolicy_valid X) hinv n data im srt hdata)

/-- what both rest on, and the multi-round clause: each unit of a re-inserted batch stays together.  `MC acc M N`
(`BBProofs/TreeBasic.lean`): `N` arises from `M` by merges `c.merge s` with `acc c s`; `acc` is arbitrary here. -/
theorem C09_units {acc : Clu → Clu → Prop} (units : List Clu) (N : Multiset Clu)
    (h : MC acc ((units.map Clu.asUnit : List Clu) : Multiset Clu) N) :
    ∀ u ∈ units, ∃ b ∈ N, ∀ i ∈ u.ids, i ∈ b.ids :=
  fun u hu => coarsens_of_units units N h u (Multiset.mem_coe.mpr hu)

/-! `CoarsensL` is inhabited (nothing about the estimator is evaluated). -/
example : CoarsensL [[0, 2], [1]] [[1, 0, 2]] := by
  intro a ha
  refine ⟨[1, 0, 2], by simp, ?_⟩
  simp only [List.mem_cons, List.not_mem_nil, or_false] at ha
  rcases ha with rfl | rfl <;> simp

end BB
