/-
C04 — clustering is a pure function of the ordered fingerprints and parameters.

The model is a function, so "the same result on repeated runs / in another process" holds of it by construction; that the
code has no hidden input (RNG, hash order, time, addresses, representation of the rows) is exercised, not proved, as are
NumPy's `memmap` offsets and the kernel's `madvise`.  Proved: cutting one fit call into consecutive calls changes nothing
(`fit` on histories, C01); packing is invertible for every feature count (`pack` / `unpack`, `BBModel/Bits.lean`); the
counter machine of `_ArrayMemPagesManager` (`Pages.releases`, `BBModel/MemPages.lean`) releases only inside the mapped
file, behind the read cursor, in whole steps, never twice.  Input dtypes are the harness's; the model sees bits.
-/
import BBProps.C01
import BBProofs.Chunking
import BBProofs.Bits
import BBProofs.MemPages
import BBProofs.GenEq

namespace BB

/-- **chunking**: from every reachable state, fitting `xs ++ ys` in one call equals fitting `xs` and then `ys`, provided
`xs` has no malformed row (a fit stops at one, which a cut after it would not reproduce).  `xs ≠ []`: in the model a
`fit` of no rows is an error without effect. -/
theorem C04_chunking (X : ExpTab) (cfg : Cfg) (hbf : 2 ≤ cfg.bf) (F : Nat) (ops : List Op)
    (hwf : ∀ op ∈ ops, op.WF F) (xs ys : List Row) (hx : xs ≠ []) (hall : ∀ r ∈ xs, r.length = F) :
    run X (init cfg) (ops ++ [.fit xs none, .fit ys none]) = run X (init cfg) (ops ++ [.fit (xs ++ ys) none]) := by
  have hinv := C01_invariant (refPolicy X) (refPolicy_valid X) cfg hbf F ops hwf
  have hF : ∀ r0, xs.head? = some r0 → ((runWith (refPolicy X) (init cfg) ops).st.F?).getD r0.length = F :=
    fun r0 hr0 => TreeSt.HasF.getD hinv.fF _ (hall r0 (List.mem_of_mem_head? hr0))
  have hcfg : (fit (refPolicy X (runWith (refPolicy X) (init cfg) ops).cfg) (runWith (refPolicy X) (init cfg) ops)
      xs none).1.cfg = (runWith (refPolicy X) (init cfg) ops).cfg := by
    rw [fit_grow _ F _ _ _ hF]; rfl
  simp only [run, runWith, List.foldl_append, List.foldl_cons, List.foldl_nil, stepWith] at hcfg hF ⊢
  rw [hcfg]
  exact fit_chunking (refPolicy X) (refPolicy_valid X) _ (by have := hinv.bf; omega) hinv.ok xs ys F hF hall hx

/-- packed and unpacked input denote the same fingerprints, for every feature count -/
theorem C04_packed (r : Row) : unpack (pack r) r.length = r := unpack_pack r

/-- **page release**: every released range starts at or after the mapping's start, is one release step long and
step-aligned, ends behind the read cursor and inside the file -/
theorem C04_pages (p : Pages.Params) (hc : p.canRelease = true) (hi : 1 ≤ p.itemsize) (hP : 0 < p.P) :
    ∀ r ∈ Pages.releases p, p.base ≤ r.addr ∧ r.len = p.P ∧ (r.addr - p.base) % p.P = 0 ∧
      r.addr + r.len ≤ p.base + p.offset + r.afterRow * p.rowBytes ∧ r.afterRow ≤ p.nrows ∧
      r.addr + r.len ≤ p.base + p.fileSize :=
  fun r hr =>
    let h := Pages.releases_safe p hc hi hP r hr
    ⟨h.base_le, h.len_eq, h.aligned, h.behind, h.rows, h.inside⟩

/-- no byte is released twice: the released ranges are pairwise disjoint and ascending -/
theorem C04_pages_disjoint (p : Pages.Params) (hc : p.canRelease = true) :
    (Pages.releases p).Pairwise (fun a b => a.addr + a.len ≤ b.addr) :=
  Pages.releases_pairwise p hc

/-- nothing is released when the manager is not in its safe configuration -/
theorem C04_pages_none (p : Pages.Params) (h : p.canRelease = false) : Pages.releases p = [] :=
  Pages.releases_none p h

/-! `Pages.releases` for 20 000 rows of 256 bytes behind a 128-byte header, 2 MiB steps: two releases. -/
example : (Pages.releases { base := 4096, offset := 128, ncols := 256, itemsize := 1, P := 2097152, nrows := 20000 }).length = 2 := by
  rw [Pages.releases_length _ (by decide)]
  decide

/-! ## The same for the code itself

`BBGen.*` is the Lean text that `tools/py2lean.py` writes from the Python source (here `_memory.py`) each time the check
runs; `codeLoop` (hand-written in `BBProofs/GenEq.lean`: the row loop of `fit`) drives the translated manager over the
rows and collects its `madvise` calls. -/

/-- code: the `_madvise_dontneed` calls of the translated `_ArrayMemPagesManager` in the row loop of `fit` over a
memory-mapped 2-D array are exactly `Pages.releases` -/
theorem C04_code_pages (expf : Rat → Rat) (data off ncols ps itemsize nrows : Nat) (hc : 0 < ncols)
    (hps : 0 < ps) (hP : ps * 512 < 2 ^ 53) (hb : off ≤ data) :
    codeLoop expf nrows 0 (BBGen._ArrayMemPagesManager_from_bb_input expf PV.pynone (PV.int data)
        (PV.bool true) (PV.int 2) (PV.int off) (PV.int ncols) (PV.int ps))
      = (Pages.releases (pagesOf data off ncols itemsize ps nrows)).map relPV :=
  gen_pages expf data off ncols ps itemsize nrows hc hps hP hb

/-- code: the manager built by `from_bb_input` is the model's (`can_release`, step, rows per step, start) -/
theorem C04_code_pages_init (expf : Rat → Rat) (data off ncols ps : Nat) (hc : 0 < ncols)
    (hP : ps * 512 < 2 ^ 53) (hb : off ≤ data) (itemsize nrows : Nat) :
    BBGen._ArrayMemPagesManager_from_bb_input expf PV.pynone (PV.int data) (PV.bool true) (PV.int 2)
        (PV.int off) (PV.int ncols) (PV.int ps)
      = if (pagesOf data off ncols itemsize ps nrows).canRelease then
          [PV.bool true, PV.int ((pagesOf data off ncols itemsize ps nrows).P : Nat),
            PV.int ((pagesOf data off ncols itemsize ps nrows).iters : Nat),
            PV.int ((pagesOf data off ncols itemsize ps nrows).base : Nat)]
        else [PV.bool false, PV.int ((pagesOf data off ncols itemsize ps nrows).P : Nat), PV.int 0, PV.int 0] :=
  gen_pages_init expf data off ncols ps hc hP hb itemsize nrows

/-! `pagesOf` evaluated for 256-byte rows, a 128-byte header, 4 KiB pages: may release, 8192 rows per step. -/
example : (pagesOf 1000128 128 256 1 4096 20000).canRelease = true ∧ (pagesOf 1000128 128 256 1 4096 20000).iters = 8192 := by
  decide

/-- code: every `madvise` call of the translated manager starts at or after the mapping's start, covers one release
step, ends behind the read cursor and inside the file (`data`: address of the array data, `off`: header size, `ps`:
`mmap.PAGESIZE`) -/
theorem C04_code_pages_safe (expf : Rat → Rat) (data off ncols ps itemsize nrows : Nat) (hc : 0 < ncols)
    (hps : 0 < ps) (hP : ps * 512 < 2 ^ 53) (hb : off ≤ data) (hi : 1 ≤ itemsize) :
    ∀ call ∈ codeLoop expf nrows 0 (BBGen._ArrayMemPagesManager_from_bb_input expf PV.pynone (PV.int data)
        (PV.bool true) (PV.int 2) (PV.int off) (PV.int ncols) (PV.int ps)),
      ∃ addr len afterRow : Nat, call = [PV.int addr, PV.int len, PV.int afterRow] ∧
        data - off ≤ addr ∧ len = ps * 512 ∧
        addr + len ≤ (data - off) + off + afterRow * (ncols * itemsize) ∧ afterRow ≤ nrows ∧
        addr + len ≤ (data - off) + (off + nrows * (ncols * itemsize)) := by
  intro call hcall
  rw [gen_pages expf data off ncols ps itemsize nrows hc hps hP hb] at hcall
  obtain ⟨r, hr, rfl⟩ := List.mem_map.mp hcall
  have hcan : (pagesOf data off ncols itemsize ps nrows).canRelease = true := by
    by_contra hne
    have : (pagesOf data off ncols itemsize ps nrows).canRelease = false := by simpa using hne
    rw [C04_pages_none _ this] at hr
    exact absurd hr (by simp)
  have h := Pages.releases_safe (pagesOf data off ncols itemsize ps nrows) hcan hi
    (by simp [pagesOf]; omega) r hr
  exact ⟨r.addr, r.len, r.afterRow, rfl, h.base_le, h.len_eq, h.behind, h.rows, h.inside⟩

end BB
