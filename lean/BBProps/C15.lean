/-
C15 — the command line runs the same workflow as the API, on a clean output directory.  The model
(BBModel/Cli.lean) writes `bb run` as output-directory validation, then the API history (`cliRun`: constructor,
one `fit` per input file, optional `set_merge`, refinement and re-clustering rounds, `delete_internal_nodes`),
then a fixed set of output names; `bb multiround` (`cliMultiround`) as validation, the argument checks and
`multiround`.  On the documented option domains the commands complete, and their labels are the positions in the
concatenation of the input files in the order given: the sorting of the `*.npy` files by name is outside the
model.  Also outside, exercised only: typer option parsing, encodings, symlinks, the monitor, console output.
`--overwrite` and `--save-tree` are modelled as repaired (fixes 97b469a, 317a8bd).
-/
import BBProofs.Cli
import BBProofs.CliMulti
import BBProofs.RefPolicy
import BBProps.C05
import BBProofs.GenEq5

namespace BB.Cli
open BB

/-- **C15 (same workflow)**, by definition of the model: `cliRun` is the constructor call followed by the plan,
stopping at the first call that raises -/
theorem C15_equals_api (pol : Cfg → Policy) (o : RunOpts) (files : List (List Row))
    (perms : List (Option (List Nat))) :
    cliRun pol o files perms =
      match construct o.thr o.bf (some (.name o.crit)) (some o.tol) with
      | .error x => .error x
      | .ok e => runStrict pol e (runPlan o files perms) := rfl

/-- a `bb run` that completes reports from the state of the plain API history of the constructed estimator -/
theorem C15_equals_api_state (pol : Cfg → Policy) (o : RunOpts) (files : List (List Row))
    (perms : List (Option (List Nat))) (e : Est) (h : cliRun pol o files perms = .ok e) :
    ∃ e0, construct o.thr o.bf (some (.name o.crit)) (some o.tol) = .ok e0 ∧
      e = runWith pol e0 (runPlan o files perms) := by
  rw [C15_equals_api] at h
  split at h
  · simp at h
  · rename_i e0 h0
    exact ⟨e0, h0, (runStrict_runWith pol _ _ _ h).symm⟩

/-- `C15_equals_api_state` for the reference policy `refPolicy X`, the code's own merge decisions (`run X`) -/
theorem C15_equals_api_ref (X : ExpTab) (o : RunOpts) (files : List (List Row))
    (perms : List (Option (List Nat))) (e : Est) (h : cliRun (refPolicy X) o files perms = .ok e) :
    ∃ e0, construct o.thr o.bf (some (.name o.crit)) (some o.tol) = .ok e0 ∧
      e = run X e0 (runPlan o files perms) :=
  C15_equals_api_state (refPolicy X) o files perms e h

/-- **C15 (plan)**, by definition of the model: the calls, in order, with the normalised `(refine_rounds, refine_num)` -/
theorem C15_plan_shape (o : RunOpts) (files : List (List Row)) (perms : List (Option (List Nat))) :
    runPlan o files perms =
      files.map (fun f => Op.fit f none) ++
      (if (normRounds o).1 ≠ 0 ∨ o.reclusterRounds ≠ 0 then
        [Op.setMerge (some (.name o.refineCrit)) (some o.tol) (some (fadd o.thr o.chg)) none] ++
        List.replicate (normRounds o).1 (Op.refine ((normRounds o).2 : Int) files.flatten 0 true) ++
        (List.range o.reclusterRounds).map (fun j => Op.recluster 1 0 [perms.getD j none] false)
       else []) ++
      [Op.delInternal] := rfl

/-- the normalisation: rounds default to "one iff something is to be refined", and a refinement round
always splits at least one cluster -/
theorem C15_normRounds (o : RunOpts) :
    (o.refineRounds = none → (normRounds o).1 = if 0 < o.refineNum then 1 else 0) ∧
    (∀ r, o.refineRounds = some r → (normRounds o).1 = r) ∧
    (0 < (normRounds o).1 → 1 ≤ (normRounds o).2) ∧
    (0 < o.refineNum → (normRounds o).2 = o.refineNum) ∧
    ((normRounds o).1 = 0 → (normRounds o).2 = o.refineNum) := by
  unfold normRounds
  cases o.refineRounds <;> simp only [reduceCtorEq, Option.some.injEq, forall_eq', gt_iff_lt,
    Bool.and_eq_true, decide_eq_true_eq, beq_iff_eq, IsEmpty.forall_iff, forall_const, true_and] <;>
    split_ifs <;> omega

/-- without any refinement option the command is: fit every file, release the internal nodes -/
theorem C15_plan_default (o : RunOpts) (files : List (List Row)) (perms : List (Option (List Nat)))
    (h1 : o.refineNum = 0) (h2 : o.refineRounds = none) (h3 : o.reclusterRounds = 0) :
    runPlan o files perms = files.map (fun f => Op.fit f none) ++ [Op.delInternal] := by
  simp [runPlan, refineSection, normRounds, h1, h2, h3, fitOps]

section
variable (pol : Cfg → Policy) (hpol : ∀ cfg, (pol cfg).Valid)
include hpol

/-- **C15 (totality)**: on the documented domain (`RunDom`: both criterion names known, branching factor ≥ 2, at
least one input file, no empty file, one fingerprint length) and for every supplied shuffle, `bb run` completes -/
theorem C15_total_run (o : RunOpts) (files : List (List Row)) (perms : List (Option (List Nat))) (F : Nat)
    (hd : RunDom o files F) : ∃ e, cliRun pol o files perms = .ok e := by
  obtain ⟨_, e, _, h, _⟩ := cliRun_total pol hpol o files perms F hd
  exact ⟨e, h⟩

/-- the history of a run is consistent with the labelling "label `i` = row `i` of the concatenation of the
input files" (`RunD`; it is C02's `Consistent`) -/
theorem C15_consistent (o : RunOpts) (files : List (List Row)) (perms : List (Option (List Nat))) (F : Nat)
    (hd : RunDom o files F) :
    ∃ e0, construct o.thr o.bf (some (.name o.crit)) (some o.tol) = .ok e0 ∧
      RunD pol F (MR.dataOf files) e0 (runPlan o files perms) := by
  obtain ⟨e0, _, h0, _, _, hr, _⟩ := cliRun_total pol hpol o files perms F hd
  exact ⟨e0, h0, hr⟩

/-- **C15 (numbering)**: in the state `bb run` reports from, all `N` rows are fitted, every reported cluster (in
the sorted order of `clusters.pkl` and in leaf order) is exact for the labelling "label `i` = row `i` of the
concatenated files", and the reported clusters partition `0 .. N-1` -/
theorem C15_numbering (o : RunOpts) (files : List (List Row)) (perms : List (Option (List Nat))) (F : Nat)
    (hd : RunDom o files F) (e : Est) (h : cliRun pol o files perms = .ok e) :
    e.numFitted = (files.map List.length).sum ∧
    (∀ c ∈ e.st.sortedClus, Exact (MR.dataOf files) c ∧ 1 ≤ c.n) ∧
    (∀ c ∈ e.st.leafClus, Exact (MR.dataOf files) c ∧ 1 ≤ c.n) ∧
    (runOutputs e o).2.1 = e.st.sortedClus.map (·.ids) ∧
    ∀ sort, (e.clusters sort).flatten.Perm (List.range (files.map List.length).sum) := by
  obtain ⟨_, e', _, h', _, _, hinv, hn⟩ := cliRun_total pol hpol o files perms F hd
  rw [h] at h'
  cases h'
  have hN : e.numFitted = (files.map List.length).sum := by rw [hn, List.length_flatten]
  refine ⟨hN, fun c hc => hinv.q c ((TreeSt.mem_sortedClus hinv.ok).mp hc),
    fun c hc => hinv.q c ((TreeSt.mem_leafClus hinv.ok).mp hc), rfl, ?_⟩
  · intro sort
    rw [← hN]
    exact clusters_perm hinv sort

/-- the saved centroid list is aligned with the cluster list, and each centroid is the one the rows of the
cluster's members determine -/
theorem C15_centroids (o : RunOpts) (files : List (List Row)) (perms : List (Option (List Nat))) (F : Nat)
    (hd : RunDom o files F) (e : Est) (h : cliRun pol o files perms = .ok e) (hc : o.saveCentroids = true) :
    (runOutputs e o).2.2 = ((runOutputs e o).2.1).map
      (fun ids => centroidFromSum (colSum (ids.map (MR.dataOf files))) ids.length) := by
  obtain ⟨_, hs, _, _, _⟩ := C15_numbering pol hpol o files perms F hd e h
  simp only [runOutputs, hc, ↓reduceIte, Est.clusters, TreeSt.sortedClus, List.map_map]
  apply List.map_congr_left
  intro u hu
  exact (hs u hu).1.cent_members

end

/-- the labels are the positions in the concatenation of the input files, in the order given -/
theorem C15_label_is_row (files : List (List Row)) (i : Nat) (hi : i < files.flatten.length) :
    MR.dataOf files i = files.flatten[i] := MR.C05_dataOf files i hi

/-- the labels of the `k`-th file start after those of the files before it -/
theorem C15_label_offset (pre : List (List Row)) (f : List Row) (rest : List (List Row)) (i : Nat)
    (hi : i < f.length) : MR.dataOf (pre ++ f :: rest) ((pre.map List.length).sum + i) = f[i] := by
  rw [← List.length_flatten]
  apply MR.dataOf_get
  rw [List.flatten_append, List.flatten_cons, List.getElem?_append_right (by omega)]
  simp [List.getElem?_append_left hi]

/-- for the reference policy `refPolicy X`, the code's own merge decisions -/
theorem C15_total_run_ref (X : ExpTab) (o : RunOpts) (files : List (List Row)) (perms : List (Option (List Nat)))
    (F : Nat) (hd : RunDom o files F) : ∃ e, cliRun (refPolicy X) o files perms = .ok e :=
  C15_total_run (refPolicy X) (refPolicy_valid X) o files perms F hd

/-- `C15_numbering` for the reference policy -/
theorem C15_numbering_ref (X : ExpTab) (o : RunOpts) (files : List (List Row)) (perms : List (Option (List Nat)))
    (F : Nat) (hd : RunDom o files F) (e : Est) (h : cliRun (refPolicy X) o files perms = .ok e) :
    e.numFitted = (files.map List.length).sum ∧
    (∀ c ∈ e.st.sortedClus, Exact (MR.dataOf files) c ∧ 1 ≤ c.n) ∧
    (∀ c ∈ e.st.leafClus, Exact (MR.dataOf files) c ∧ 1 ≤ c.n) ∧
    (runOutputs e o).2.1 = e.st.sortedClus.map (·.ids) ∧
    ∀ sort, (e.clusters sort).flatten.Perm (List.range (files.map List.length).sum) :=
  C15_numbering (refPolicy X) (refPolicy_valid X) o files perms F hd e h

/-- outside the domain the command fails where the API fails: an unknown criterion name is refused by
the constructor, before anything is fitted -/
theorem C15_unknown_crit (pol : Cfg → Policy) (o : RunOpts) (files : List (List Row))
    (perms : List (Option (List Nat))) (h : Crit.ofName? o.crit = none) :
    cliRun pol o files perms = .error .value := by
  simp [cliRun, construct, selectMerge, h]

/-- **C15 (clean directory)**: without `--overwrite` the command is refused exactly when the output
directory has entries; with `--overwrite` it is never refused; and whenever validation passes the
run starts from the empty directory -/
theorem C15_outdir (entries : List String) :
    ((∃ x, validateOutputDir entries false = .error x) ↔ entries ≠ []) ∧
    validateOutputDir entries true = .ok [] ∧
    (∀ ow d, validateOutputDir entries ow = .ok d → d = []) ∧
    (∀ ow x, validateOutputDir entries ow = .error x → x = .value ∧ ow = false ∧ entries ≠ []) := by
  unfold validateOutputDir
  refine ⟨?_, ?_, ?_, ?_⟩
  · cases entries <;> simp
  · cases entries <;> simp
  · exact fun ow d h => (validateOutputDir_ok h).1
  · intro ow x h
    cases entries <;> cases ow <;> simp at h
    exact ⟨h.symm, rfl, by simp⟩

theorem C15_outputNames_nodup (o : RunOpts) : (outputNames o).Nodup := (outputNames_cases o).1

/-- after a completed command the directory lists exactly the output names of this run, each once, among them
`clusters.pkl`, the centroid file iff `--save-centroids` and the tree iff `--save-tree`; and a non-empty
directory was accepted only with `--overwrite` -/
theorem C15_outdir_run (pol : Cfg → Policy) (o : RunOpts) (entries : List String) (files : List (List Row))
    (perms : List (Option (List Nat))) (e : Est) (dir : List String)
    (h : cliRunDir pol o entries files perms = .ok (e, dir)) :
    cliRun pol o files perms = .ok e ∧ dir = (runOutputs e o).1 ∧ dir = outputNames o ∧ dir.Nodup ∧
    (entries ≠ [] → o.overwrite = true) ∧
    ("clusters.pkl" ∈ dir) ∧ ("cluster-centroids-packed.pkl" ∈ dir ↔ o.saveCentroids = true) ∧
    ("bitbirch.pkl" ∈ dir ↔ o.saveTree = true) := by
  unfold cliRunDir at h
  split at h
  · simp at h
  · rename_i d hv
    obtain ⟨rfl, how⟩ := validateOutputDir_ok hv
    split at h
    · simp at h
    · rename_i e' hr
      simp only [List.nil_append, Except.ok.injEq, Prod.mk.injEq] at h
      obtain ⟨rfl, rfl⟩ := h
      exact ⟨hr, rfl, rfl, (outputNames_cases o).1, how, (outputNames_cases o).2⟩

/-- a refused directory means nothing is run (no estimator state, no file list) -/
theorem C15_outdir_refused (pol : Cfg → Policy) (o : RunOpts) (entries : List String) (files : List (List Row))
    (perms : List (Option (List Nat))) (hne : entries ≠ []) (how : o.overwrite = false) :
    cliRunDir pol o entries files perms = .error .value := by
  cases entries with
  | nil => exact absurd rfl hne
  | cons a l => simp [cliRunDir, validateOutputDir, how]

/-- **C15 (same workflow, multiround)**, by definition of the model: `cliMultiround` is validation of the output
directory, the argument checks, and `multiround` on the mapped options -/
theorem C15_multi_equals_api (pol : Cfg → Policy) (o : MultiOpts) (files : List (List Row))
    (sched : Nat → List Nat → List Nat) (fs0 : MR.FS) :
    cliMultiround pol o files sched fs0 =
      match validateOutputDir (fs0.map (·.1)) o.overwrite with
      | .error x => .error x
      | .ok names =>
        if multiArgsOk o then MR.multiround pol (toMRCfg o) files sched (dirAfter fs0 names)
        else .error .value := rfl

/-- by definition of the model: the options are mapped one-to-one; the final criterion is the midsection one -/
theorem C15_multi_cfg (o : MultiOpts) :
    (toMRCfg o).bf = o.bf ∧ (toMRCfg o).thr = o.thr ∧ (toMRCfg o).thrChange = o.midChg ∧
    (toMRCfg o).tol = o.tol ∧ (toMRCfg o).initCrit = o.initCrit ∧ (toMRCfg o).midCrit = o.midCrit ∧
    (toMRCfg o).finalCrit = o.midCrit ∧ (toMRCfg o).splitAfterMid = o.splitAfterMid ∧
    (toMRCfg o).binSize = o.binSize ∧ (toMRCfg o).nMidRounds = o.nMidRounds ∧
    (toMRCfg o).saveCentroids = o.saveCentroids ∧ (toMRCfg o).cleanup = o.cleanup ∧
    (∀ m, parseMode o.initialRefine = some m → (toMRCfg o).mode = m) :=
  ⟨rfl, rfl, rfl, rfl, rfl, rfl, rfl, rfl, rfl, rfl, rfl, rfl, fun m h => by simp [toMRCfg, h]⟩

/-- a completed command is a completed API run that started on the empty directory; the directory held something
before only with `--overwrite` -/
theorem C15_multi_equals_api_ok (pol : Cfg → Policy) (o : MultiOpts) (files : List (List Row))
    (sched : Nat → List Nat → List Nat) (fs0 fs : MR.FS) (h : cliMultiround pol o files sched fs0 = .ok fs) :
    MR.multiround pol (toMRCfg o) files sched [] = .ok fs ∧ multiArgsOk o = true ∧
    (fs0 ≠ [] → o.overwrite = true) := by
  rw [C15_multi_equals_api] at h
  split at h
  · simp at h
  · rename_i names hv
    obtain ⟨rfl, how⟩ := validateOutputDir_ok hv
    have hdir : dirAfter fs0 [] = [] := by simp [dirAfter]
    rw [hdir] at h
    split at h
    · rename_i hok
      exact ⟨h, hok, fun hne => how (by simpa using hne)⟩
    · simp at h

/-- **C15 (multiround partition)**: for every initial directory content accepted by validation, a
completed `bb multiround` leaves a cluster file whose member lists partition `0 .. N-1` -/
theorem C15_multi_partition (pol : Cfg → Policy) (hpol : ∀ cfg, (pol cfg).Valid) (o : MultiOpts) (hbf : 2 ≤ o.bf)
    (files : List (List Row)) (sched : Nat → List Nat → List Nat) (fs0 fs : MR.FS)
    (h : cliMultiround pol o files sched fs0 = .ok fs) :
    ∃ cl : List (List Nat), fs.read "clusters.pkl" = some (.clusters cl) ∧
      cl.flatten.Perm (List.range (files.map List.length).sum) :=
  MR.C05_partition pol hpol (toMRCfg o) hbf files sched [] fs (C15_multi_equals_api_ok pol o files sched fs0 fs h).1

/-- `C15_multi_partition` for the reference policy -/
theorem C15_multi_partition_ref (X : ExpTab) (o : MultiOpts) (hbf : 2 ≤ o.bf)
    (files : List (List Row)) (sched : Nat → List Nat → List Nat) (fs0 fs : MR.FS)
    (h : cliMultiround (refPolicy X) o files sched fs0 = .ok fs) :
    ∃ cl : List (List Nat), fs.read "clusters.pkl" = some (.clusters cl) ∧
      cl.flatten.Perm (List.range (files.map List.length).sum) :=
  C15_multi_partition (refPolicy X) (refPolicy_valid X) o hbf files sched fs0 fs h

/-- **C15 (totality, multiround)**: on the documented domain (`MultiDom`), for every schedule of the pools and
every output directory that validation accepts (empty, or anything with `--overwrite`), `bb multiround` completes -/
theorem C15_total_multi (pol : Cfg → Policy) (hpol : ∀ cfg, (pol cfg).Valid) (o : MultiOpts)
    (files : List (List Row)) (F : Nat) (hd : MultiDom o files F) (sched : Nat → List Nat → List Nat)
    (fs0 : MR.FS) (hdir : fs0 = [] ∨ o.overwrite = true) :
    ∃ fs, cliMultiround pol o files sched fs0 = .ok fs := by
  rw [C15_multi_equals_api]
  have hv : validateOutputDir (fs0.map (·.1)) o.overwrite = .ok [] := by
    rcases hdir with rfl | how
    · rfl
    · rw [how]; exact (C15_outdir _).2.1
  rw [hv]
  simp only [hd.args, ↓reduceIte]
  exact MR.multiround_total pol hpol (toMRCfg o) files F hd.mr sched _

/-- `C15_total_multi` for the reference policy -/
theorem C15_total_multi_ref (X : ExpTab) (o : MultiOpts) (files : List (List Row)) (F : Nat)
    (hd : MultiDom o files F) (sched : Nat → List Nat → List Nat) (fs0 : MR.FS)
    (hdir : fs0 = [] ∨ o.overwrite = true) :
    ∃ fs, cliMultiround (refPolicy X) o files sched fs0 = .ok fs :=
  C15_total_multi (refPolicy X) (refPolicy_valid X) o files F hd sched fs0 hdir

/-- the argument checks: more midsection processes than initial ones, or an unknown
`--initial-refine`, are refused (`ValueError`) -/
theorem C15_multi_args (pol : Cfg → Policy) (o : MultiOpts) (files : List (List Row))
    (sched : Nat → List Nat → List Nat) (fs0 : MR.FS) (h : multiArgsOk o = false) :
    ∃ x, cliMultiround pol o files sched fs0 = .error x := by
  rw [C15_multi_equals_api]
  split
  · exact ⟨_, rfl⟩
  · simp [h]

/-! `exampleOpts` and `exampleFiles` are inside the domain of `bb run`; their normalised rounds, their plan, and
the five rows fitted by the run that `C15_total_run_ref` gives -/

example : RunDom exampleOpts exampleFiles 3 where
  crit := by decide
  refineCrit := by decide
  bf := by decide
  atLeastOne := by decide
  nonempty := by decide
  width := by decide

example : normRounds exampleOpts = (2, 1) := by decide

example : showPlan (runPlan exampleOpts exampleFiles [some [1, 0], none]) =
    "FIT 0 ; FIT 1 ; FIT 2 ; SETMERGE crit=tolerance-diameter tol=1/20 thr=5854679515581645/9007199254740992 bf=- ; REFINE n=1 srt=1 ; REFINE n=1 srt=1 ; RECLUSTER 0 ; RECLUSTER 1 ; DELINT" := by
  decide +kernel

example (X : ExpTab) : ∃ e, cliRun (refPolicy X) exampleOpts exampleFiles [some [1, 0], none] = .ok e ∧
    e.numFitted = 5 :=
  have hd : RunDom exampleOpts exampleFiles 3 :=
    ⟨by decide, by decide, by decide, by decide, by decide, by decide⟩
  let ⟨e, h⟩ := C15_total_run_ref X exampleOpts exampleFiles _ 3 hd
  ⟨e, h, (C15_numbering_ref X exampleOpts exampleFiles _ 3 hd e h).1⟩

/-! `exampleMulti` is inside the domain of `bb multiround`, and the command completes on any directory `junk` -/
example : MultiDom exampleMulti exampleFiles 3 where
  initCrit := by decide
  midCrit := by decide
  mode := by decide
  procs := by decide
  bf := by decide
  atLeastOne := by decide
  nonempty := by decide
  width := by decide

example (X : ExpTab) (sched : Nat → List Nat → List Nat) (junk : MR.FS) :
    ∃ fs, cliMultiround (refPolicy X) exampleMulti exampleFiles sched junk = .ok fs :=
  C15_total_multi_ref X exampleMulti exampleFiles 3
    ⟨by decide, by decide, by decide, by decide, by decide, by decide, by decide, by decide⟩ sched junk (Or.inr rfl)

/-! validation refuses a non-empty directory, empties it with `--overwrite`, accepts the empty one -/
example : validateOutputDir ["clusters.pkl", "old.txt"] false = .error .value ∧
    validateOutputDir ["clusters.pkl", "old.txt"] true = .ok [] ∧ validateOutputDir [] false = .ok [] := by
  decide

/-! The code: `BBGen.*` is the Lean text the translator writes from the Python source each time the check runs. -/

/-- code: on an existing directory with listing `entries`, `_validate_output_dir` raises, touching nothing, exactly
when the model's `validateOutputDir` refuses; otherwise it removes and re-creates a non-empty directory and
leaves an empty one alone -/
theorem C15_code_validate (expf : Rat → Rat) (entries : List String) (overwrite : Bool) :
    BBGen._validate_output_dir expf (PV.bool overwrite) (PV.bool (!entries.isEmpty)) (PV.bool true) (PV.bool true)
      = match validateOutputDir entries overwrite with
        | .error _ => [PV.err "RuntimeError"]
        | .ok _ => if entries.isEmpty then []
                   else [PV.str "shutil.rmtree", PV.str "out_dir", PV.str "out_dir.mkdir"] :=
  gen_validate expf entries overwrite

/-- code: a non-empty directory without `--overwrite` is refused and no effect is performed -/
theorem C15_code_refused (expf : Rat → Rat) (entries : List String) (hne : entries ≠ []) :
    BBGen._validate_output_dir expf (PV.bool false) (PV.bool (!entries.isEmpty)) (PV.bool true) (PV.bool true)
      = [PV.err "RuntimeError"] := by
  rw [gen_validate]
  cases entries with
  | nil => exact absurd rfl hne
  | cons a l => simp [validateOutputDir]

end BB.Cli
