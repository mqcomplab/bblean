/-
C14 — interrupted or repeated runs cannot contaminate results.  A run (`multiround`, BBModel/Multiround.lean)
starts by removing every round file and final file (`purge`, the model of `_remove_leftovers`) and afterwards
reads only round files it wrote itself; so on any initial directory `fs0`, in particular what any crash of any
earlier run left behind, it produces the files it produces on an empty directory and touches nothing else
(`C14_fresh`).  The cluster file is written last (`multiroundTrace`, `C14_commit_last`), so an interrupted or
failing run leaves no `clusters.pkl`, neither its own nor an older one.  This is the repaired protocol (fix
b141a19).  A crash falls between two Python-level file effects or inside one; power loss and directory-entry
durability are not modelled, and the purge and the cleanup are single steps of the trace.
-/
import BBProofs.Multiround
import BBProofs.Trace
import BBProofs.RefPolicy
import BBProofs.GenEq9

namespace BB.MR
open BB

variable (pol : BB.Cfg → Policy)

/-- **C14 (fresh)**: for every initial directory content, a successful run also succeeds on the
empty directory, both results agree on every round file and every final file, the run on the
empty directory holds nothing else, and every other file of `fs0` is untouched -/
theorem C14_fresh (c : Cfg) (files : List (List Row)) (sched : Nat → List Nat → List Nat) (fs0 fs : FS)
    (h : multiround pol c files sched fs0 = .ok fs) :
    ∃ fs', multiround pol c files sched [] = .ok fs' ∧
      (∀ n, isRoundFile n = true ∨ isFinalFile n = true → fs.read n = fs'.read n) ∧
      (∀ n, isRoundFile n = false → isFinalFile n = false → fs'.read n = none) ∧
      (∀ n, isRoundFile n = false → isFinalFile n = false → fs.read n = fs0.read n) := by
  obtain ⟨ws, cl, hl, rfl⟩ := (multiround_fresh_iff pol c files sched fs0 fs).mp h
  -- both runs make the same writes `ws ++ finalWrites c cl`, all to names the workflow owns
  have hnot : ∀ n, owned n = false → n ∉ (ws ++ finalWrites c cl).map (·.1) := by
    intro n hn hmem
    obtain ⟨x, hx, rfl⟩ := List.mem_map.mp hmem
    rw [hl.owned x hx] at hn; cases hn
  refine ⟨_, (multiround_fresh_iff pol c files sched [] _).mpr ⟨ws, cl, hl, rfl⟩, ?_, ?_, ?_⟩
  · intro n hn
    have : owned n = true := owned_iff.mpr hn
    have e : (purge fs0).read n = (purge []).read n := by rw [read_purge, read_purge, this]; rfl
    rw [read_finish, read_finish, read_writeAll_congr e]
  · intro n h1 h2
    rw [read_finish_of_not_round c _ h1, read_writeAll_of_not_mem _ (hnot n (not_owned h1 h2))]
    rfl
  · intro n h1 h2
    rw [read_finish_of_not_round c _ h1, read_writeAll_of_not_mem _ (hnot n (not_owned h1 h2)), read_purge,
      not_owned h1 h2]
    rfl

/-- the direction `C14_fresh` does not give: a run that succeeds on the empty directory succeeds on every one -/
theorem C14_fresh_isOk (c : Cfg) (files : List (List Row)) (sched : Nat → List Nat → List Nat) (fs0 : FS)
    (fs' : FS) (h : multiround pol c files sched [] = .ok fs') :
    ∃ fs, multiround pol c files sched fs0 = .ok fs := by
  obtain ⟨ws, cl, hl, _⟩ := (multiround_fresh_iff pol c files sched [] fs').mp h
  exact ⟨_, (multiround_fresh_iff pol c files sched fs0 _).mpr ⟨ws, cl, hl, rfl⟩⟩

/-- **C14 (cleanup)**: with `cleanup` a successful run leaves no round file behind -/
theorem C14_cleanup (c : Cfg) (files : List (List Row)) (sched : Nat → List Nat → List Nat) (fs0 fs : FS)
    (hc : c.cleanup = true) (h : multiround pol c files sched fs0 = .ok fs) :
    ∀ n ∈ fs.map (·.1), isRoundFile n = false := by
  obtain ⟨ws, cl, _, rfl⟩ := (multiround_ok_iff pol c files sched fs0 fs).mp h
  intro n hn
  obtain ⟨x, hx, rfl⟩ := List.mem_map.mp hn
  rw [finish, if_pos hc] at hx
  simpa using (List.mem_filter.mp hx).2

/-- the traced run computes the run (proved in BBProofs/Trace.lean from the shape of the traced functions) -/
theorem C14_trace_result (c : Cfg) (files : List (List Row)) (sched : Nat → List Nat → List Nat) (fs0 : FS) :
    (multiroundTrace pol c files sched fs0).2 = multiround pol c files sched fs0 :=
  multiroundTrace_snd pol c files sched fs0

/-- **C14 (commit last)**: let `tr` be the directory states of a run (after the purge, after every single file
write, after the cleanup); an interruption leaves one of them behind.  If the run fails, no state of `tr` holds
`clusters.pkl`.  If it succeeds with `fs`, `tr = pre ++ post` where no state of `pre` holds it and `post`, one or
two states that hold the same cluster list, ends in `fs` -/
theorem C14_commit_last (c : Cfg) (files : List (List Row)) (sched : Nat → List Nat → List Nat) (fs0 : FS) :
    (∀ e, multiround pol c files sched fs0 = .error e →
        ∀ s ∈ (multiroundTrace pol c files sched fs0).1, s.read "clusters.pkl" = none) ∧
    (∀ fs, multiround pol c files sched fs0 = .ok fs →
        ∃ pre post, (multiroundTrace pol c files sched fs0).1 = pre ++ post ∧
          (∀ s ∈ pre, s.read "clusters.pkl" = none) ∧
          post.getLast? = some fs ∧ 1 ≤ post.length ∧ post.length ≤ 2 ∧
          ∃ cl, ∀ s ∈ post, s.read "clusters.pkl" = some (.clusters cl)) := by
  rw [← C14_trace_result]
  obtain ⟨_, ⟨pre, hpre', hp⟩, h⟩ := multiroundTrace_commits pol c files sched fs0
  have hpre : ∀ s ∈ purge fs0 :: pre, NoCF s := List.forall_mem_cons.mpr ⟨purge_noCF fs0, hpre'⟩
  rw [h]
  rcases hp with ⟨e, rfl⟩ | ⟨fs3, cl, hcf, rfl⟩
  · exact ⟨fun _ _ => hpre, fun _ h => nomatch h⟩
  · split
    · refine ⟨fun _ h => (by cases h), ?_⟩
      rintro fs ⟨⟩
      refine ⟨_, [fs3, fs3.remove isRoundFile], rfl, hpre, rfl, by simp, by simp, cl, ?_⟩
      intro s hs
      simp only [List.mem_cons, List.not_mem_nil, or_false] at hs
      rcases hs with rfl | rfl
      · exact hcf
      · rw [read_remove, isRoundFile_clusters]; exact hcf
    · refine ⟨fun _ h => (by cases h), ?_⟩
      rintro fs ⟨⟩
      exact ⟨_, [fs3], rfl, hpre, rfl, by simp, by simp, cl, fun s hs => List.mem_singleton.mp hs ▸ hcf⟩

/-- the first state of the trace is the purged directory, which holds no round file and no final file -/
theorem C14_purge_first (c : Cfg) (files : List (List Row)) (sched : Nat → List Nat → List Nat) (fs0 : FS) :
    (multiroundTrace pol c files sched fs0).1.head? = some (purge fs0) ∧
    ∀ n, isRoundFile n = true ∨ isFinalFile n = true → (purge fs0).read n = none := by
  constructor
  · obtain ⟨_, ⟨pre, _, hp⟩, h⟩ := multiroundTrace_commits pol c files sched fs0
    rw [h]
    rcases hp with ⟨e, rfl⟩ | ⟨fs3, cl, _, rfl⟩
    · rfl
    · split <;> rfl
  · intro n hn
    rw [read_purge, owned_iff.mpr hn]
    rfl

/-- for the reference policy `refPolicy X`, the code's own merge decisions -/
theorem C14_fresh_ref (X : ExpTab) (c : Cfg) (files : List (List Row)) (sched : Nat → List Nat → List Nat)
    (fs0 fs : FS) (h : multiround (refPolicy X) c files sched fs0 = .ok fs) :
    ∃ fs', multiround (refPolicy X) c files sched [] = .ok fs' ∧
      (∀ n, isRoundFile n = true ∨ isFinalFile n = true → fs.read n = fs'.read n) ∧
      (∀ n, isRoundFile n = false → isFinalFile n = false → fs'.read n = none) ∧
      (∀ n, isRoundFile n = false → isFinalFile n = false → fs.read n = fs0.read n) :=
  C14_fresh (refPolicy X) c files sched fs0 fs h

/-! a sorted directory with a stale cluster file, an unrelated file (neither round file nor final file) and a
stale round file that the listing of round 1 matches -/
example : FS.Sorted [("clusters.pkl", Content.clusters [[0]]), ("notes.txt", Content.other 7),
    (bufName 1 "0" W.u8, Content.bufs W.u8 [])] ∧
    matchB 1 (bufName 1 "0" W.u8) = true ∧ isRoundFile "notes.txt" = false ∧ isFinalFile "notes.txt" = false := by
  refine ⟨?_, matchK_roundName (k := .buf) (k' := .buf).mpr ⟨rfl, rfl⟩, ?_, ?_⟩
  · refine List.Pairwise.cons ?_ (List.Pairwise.cons ?_ (List.Pairwise.cons (by simp) List.Pairwise.nil))
    · intro x hx
      simp only [List.mem_cons, List.not_mem_nil, or_false] at hx
      rcases hx with rfl | rfl
      · show "clusters.pkl" < "notes.txt"
        decide
      · show "clusters.pkl" < bufName 1 "0" W.u8
        rw [str_lt_iff, bufName_toList]; decide
    · intro x hx
      simp only [List.mem_cons, List.not_mem_nil, or_false] at hx
      subst hx
      show "notes.txt" < bufName 1 "0" W.u8
      rw [str_lt_iff, bufName_toList]; decide
  · rw [← Bool.not_eq_true, isRoundFile_iff]; decide
  · simp [isFinalFile]

/-! The code: `BBGen.*` is the Lean text the translator writes from the Python source each time the check runs. -/

/-- code: `_pickle_dump_atomic` publishes a result file by exactly these effects: pickle into the sibling
`<name>.tmp`, close it, rename it onto the final name -/
theorem C14_code_dump_effects (expf : Rat → Rat) (obj : PV) (parent name : String) :
    BBGen._pickle_dump_atomic expf obj (PV.str name) (PV.str parent)
      = [PV.str "open", PV.str (parent ++ "/" ++ (name ++ ".tmp")), PV.str "wb",
         PV.str "pickle.dump", PV.str (parent ++ "/" ++ (name ++ ".tmp")), PV.str "obj",
         PV.str "close", PV.str (parent ++ "/" ++ (name ++ ".tmp")),
         PV.str "os.replace", PV.str (parent ++ "/" ++ (name ++ ".tmp")), PV.str "path"] :=
  gen_dump_atomic expf obj parent name

/-- code: read by `pubTrace`, these effects show an observer of the final name the old content at every point before
the last effect and the complete new object after it, never a torn file, and leave no temporary name: the single
`FS.write` by which the model publishes a result file -/
theorem C14_code_dump_atomic (expf : Rat → Rat) (obj : PV) (parent name : String) :
    pubTrace (parent ++ "/" ++ (name ++ ".tmp")) (FinalC.old, TmpC.absent)
        (BBGen._pickle_dump_atomic expf obj (PV.str name) (PV.str parent))
      = [(FinalC.old, TmpC.torn), (FinalC.old, TmpC.full), (FinalC.old, TmpC.full), (FinalC.new, TmpC.absent)] :=
  gen_dump_atomic_trace expf obj parent name

/-- `pubTrace` on a write of the final name in place: torn after the first effect -/
example : pubTrace "d/x.tmp" (FinalC.old, TmpC.absent)
    [PV.str "open", PV.str "path", PV.str "wb", PV.str "pickle.dump", PV.str "path", PV.str "obj", PV.str "close", PV.str "path"]
    = [(FinalC.torn, TmpC.absent), (FinalC.new, TmpC.absent), (FinalC.new, TmpC.absent)] := by
  decide +kernel

end BB.MR
