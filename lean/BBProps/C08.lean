/-
C08 — the index stays a well-formed, height-balanced summary tree.

Along every history consistent with a labelling `D` (`RunD`, `BBProofs/OpsWF.lean`: C02's hypothesis), after every
operation and every single insertion: (a) every node holds between 1 and its capacity entries, capacities ≥ 2; (b) all
leaves are at one depth; (c) an inner entry's count, sums and labels are the totals of the node beneath it; (d) a node's
search cache is its entries' centroids; (e) the leaf chain lists the leaves reachable from the root, once each; (f) every
entry keeps its counters in the narrowest width for its count.  (a) is per node: a split hands the old capacity to the
sibling and only a new root takes the current `branching_factor`, so after `set_merge(branching_factor=…)` nodes differ.
Model: `Tree h`, `ins`, `splitNode` (`BBModel/Tree.lean`), `TreeSt` (`BBModel/Estimator.lean`); invariant `WFT` / `WFN`
(`BBProofs/WF.lean`, `OpsWF.lean`).  (b) holds of every `Tree h` by its type; the Python tree's balance and private
structure are compared with the model after every operation, not proved.  From 2^64 members on: as in C02.
-/
import BBProofs.OpsWF
import BBProofs.RefPolicy
import BBProofs.GenEq2
import BBProofs.GenEq8

namespace BB

/-- depths of the leaves of a tree of height `h`, the root being at depth `d` -/
def leafDepths : (h : Nat) → Tree h → Nat → List Nat
  | 0, _, d => [d]
  | h+1, (t : InnerN (Tree h)), d => t.ents.flatMap (fun e => leafDepths h e.2 (d + 1))

/-- (b) all leaves are at depth `d + h`.  True of every `Tree h`: the type is indexed by the height, so the model cannot
represent an unbalanced tree. -/
theorem C08_balanced : ∀ (h : Nat) (t : Tree h) (d : Nat), ∀ x ∈ leafDepths h t d, x = d + h
  | 0, _, d => by simp [leafDepths]
  | h+1, (t : InnerN (Tree h)), d => by
    intro x hx
    simp only [leafDepths, List.mem_flatMap] at hx
    obtain ⟨e, _, he⟩ := hx
    have := C08_balanced h e.2 (d + 1) x he
    omega

/-- the whole invariant along a history -/
theorem C08_invariant (X : ExpTab) (cfg : Cfg) (hbf : 2 ≤ cfg.bf) (F : Nat) (D : Nat → Row) (ops : List Op)
    (h : RunD (refPolicy X) F D (init cfg) ops) :
    EInv F (ExactN D) (run X (init cfg) ops) ∧ (run X (init cfg) ops).st.WFN D :=
  run_wfn (refPolicy_valid X) (EInv.init F _ cfg hbf) trivial h

/-- **C08** (a), (c), (d), (f) at every node of the tree, and (e) for the leaf chain -/
theorem C08_wf (X : ExpTab) (cfg : Cfg) (hbf : 2 ≤ cfg.bf) (F : Nat) (D : Nat → Row) (ops : List Op)
    (h : RunD (refPolicy X) F D (init cfg) ops) :
    match (run X (init cfg) ops).st with
    | .full hh _ root chain _ =>
      AllNodes (fun h' t' => 1 ≤ nEnts h' t' ∧ nEnts h' t' ≤ capOf h' t' ∧ 2 ≤ capOf h' t') hh root ∧
      AllNodes (TrackOK D) hh root ∧
      AllNodes (fun h' t' => cacheOf h' t' = (entClus h' t').map (·.cent)) hh root ∧
      AllNodes (fun h' t' => ∀ c ∈ entClus h' t', Exact D c ∧ 1 ≤ c.n ∧ c.w = minSafe c.n) hh root ∧
      ((chain : Multiset Nat) = leafIdsM hh root ∧ chain.Nodup ∧
        (chain.filterMap (findLeaf (leavesOf hh root))).Perm (leavesOf hh root))
    | _ => True := by
  obtain ⟨hinv, hw⟩ := C08_invariant X cfg hbf F D ops h
  generalize run X (init cfg) ops = e at hinv hw
  obtain ⟨cfg', st, nf⟩ := e
  have hok := hinv.ok
  simp only at hok hw ⊢
  cases st with
  | uninit => trivial
  | leavesOnly F' ls => trivial
  | full hh F' root chain next =>
    obtain ⟨hwf, hne⟩ := hw
    obtain ⟨_, hc, hn, _⟩ := hok
    exact ⟨wft_all_bounds hwf hne, wft_all_track hwf, wft_all_cache hwf, wft_all_exact hwf, hc, hn,
      chain_reads_leaves hc hn⟩

/-- a single insertion of an exact unit into a well-formed state yields a well-formed state, so the invariant holds
after every insertion of a `fit` -/
theorem C08_step (P : Policy) (hP : P.Valid) (D : Nat → Row) (bf : Nat) (hbf : 2 ≤ bf) (F : Nat)
    (st st' : TreeSt) (s : Clu) (hw : st.WFN D) (hs : Exact D s) (hn : 1 ≤ s.n)
    (hst : insertUnit P bf F st s = some st') : st'.WFN D :=
  insertUnit_wfn P hP hbf hw ⟨hs, hn⟩ hst

/-- by definition of `splitNode`: both halves of a split have the capacity of the node that was split -/
theorem C08_cap_split (P : Policy) (h : Nat) (t : Tree h) (next : Nat) :
    capOf h (splitNode P h t next).t1 = capOf h t ∧ capOf h (splitNode P h t next).t2 = capOf h t :=
  match h, t with
  | 0, (_ : LeafN) => ⟨rfl, rfl⟩
  | _+1, (_ : InnerN _) => ⟨rfl, rfl⟩

/-! `RunD` holds of a fit of the two rows `D` has at the labels 0 and 1 followed by a change of the branching factor. -/
example : RunD (refPolicy { E := fun _ => 1, off := 0 }) 2 (fun i => if i = 0 then [true, false] else [true, true])
    (init { thr := 1/2, bf := 2, merge := { crit := .diameter } })
    [.fit [[true, false], [true, true]] none, .setBf 3] := by
  refine ⟨⟨rfl, by simp, ?_⟩, by simp [OpD], trivial⟩
  intro _ i hi _
  match i, hi with
  | 0, _ => simp [init]
  | 1, _ => simp [init]

/-! ## The same for the code itself

`BBGen.*` is the Lean text that `tools/py2lean.py` writes from the Python source (here `_BFSubcluster.update` and three
`_BFNode` methods of `bitbirch.py`) each time the check runs; in the node methods sub-clusters are handles and buffer
rows centroid tokens (`BBProofs/GenEq8.lean`). -/

/-- code: after `entry.update(sub)` (what `insert_bf_subcluster` does to the tracking entry on the way down) the counters
are in the narrowest width for the new count; count, sums and member list are the totals -/
theorem C08_code_update_width (expf : Rat → Rat) (D : Nat → Row) (c s : Clu) (child scent schild : PV)
    (hc : Exact D c) (hs : Exact D s) (hlen : c.ls.length = s.ls.length) (hn : c.n + s.n < 2 ^ 53) :
    ∃ c', BBGen._BFSubcluster_update expf (bufOf c) (PV.arr .u8 (pack c.cent)) child (PV.arr .big c.ids)
            (bufOf s) scent schild (PV.arr .big s.ids) = stateOf c' child
      ∧ c'.w = minSafe c'.n ∧ c'.n = c.n + s.n ∧ c'.ls = addLs c.ls s.ls ∧ c'.ids = c.ids ++ s.ids := by
  refine ⟨c.update s, gen_update expf c s child scent schild (cluOk_of_exact D c hc (by omega))
    (cluOk_of_exact D s hs (by omega)) hlen hn, (exact_update hc hs).w_eq, ?_, ?_, rfl⟩
  · exact (update_unbounded hc hs).2
  · exact (update_unbounded hc hs).1

/-- code: `_BFNode.append_subcluster` keeps the centroid cache aligned with the entry list: if the valid part of
`_packed_centroids_buf` lists the centroids of `_subclusters` (`cent`: sub-cluster ↦ centroid), it does so after the
call, the new entry last -/
theorem C08_code_append_aligned (expf : Rat → Rat) (cent : Nat → Nat) (subs buf : List Nat) (log : PV) (h : Nat)
    (hlen : subs.length < buf.length) (hal : buf.take subs.length = subs.map cent) :
    let st := BBGen._BFNode_append_subcluster expf (PV.arr .big subs) (PV.arr .big buf) log (PV.int h) (PV.int (cent h))
    st.getD 0 PV.pynone = PV.arr .big (subs ++ [h]) ∧
    BBGen._BFNode_packed_centroids expf (st.getD 0 PV.pynone) (st.getD 1 PV.pynone) (st.getD 2 PV.pynone)
      = PV.arr .big ((subs ++ [h]).map cent) := by
  intro st
  refine ⟨?_, gen_node_append_aligned expf cent subs buf log h hlen hal⟩
  show (BBGen._BFNode_append_subcluster expf _ _ _ _ _).getD 0 PV.pynone = _
  rw [gen_node_append expf subs buf log h (cent h) hlen]; rfl

/-- code: `_BFNode.update_split_subclusters` replaces the split entry (at `i`) in place by the first half and appends the
second, entries and cache by the list expressions of the model's insertion (`set i _ ++ [_]`): one entry more, order
kept, cache aligned again -/
theorem C08_code_split_aligned (expf : Rat → Rat) (cent : Nat → Nat) (subs buf : List Nat) (log : PV) (h h1 h2 i : Nat)
    (hlen : subs.length < buf.length) (hi : subs.idxOf? h = some i) (hal : buf.take subs.length = subs.map cent) :
    let st := BBGen._BFNode_update_split_subclusters expf (PV.arr .big subs) (PV.arr .big buf) log (PV.int h) (PV.int h1) (PV.int h2)
                (PV.int (cent h1)) (PV.int (cent h2))
    st.getD 0 PV.pynone = PV.arr .big (subs.set i h1 ++ [h2]) ∧
    BBGen._BFNode_packed_centroids expf (st.getD 0 PV.pynone) (st.getD 1 PV.pynone) (st.getD 2 PV.pynone)
      = PV.arr .big ((subs.map cent).set i (cent h1) ++ [cent h2]) ∧
    (subs.map cent).set i (cent h1) ++ [cent h2] = (subs.set i h1 ++ [h2]).map cent ∧
    (subs.set i h1 ++ [h2]).length = subs.length + 1 :=
  let ⟨a, b, c⟩ := gen_node_split_aligned expf cent subs buf log h h1 h2 i hlen hi hal
  ⟨a, b, c, by simp⟩

/-- the premises hold of a node with entries 7, 8, 9 (centroid of `k`: `10 k`) in a buffer of five rows; entry 8 is
split into 20 and 21 -/
example : ([7, 8, 9] : List Nat).length < [70, 80, 90, 0, 0].length ∧ ([7, 8, 9] : List Nat).idxOf? 8 = some 1 ∧
    ([70, 80, 90, 0, 0] : List Nat).take 3 = [7, 8, 9].map (· * 10) ∧
    BBGen._BFNode_update_split_subclusters (fun x => x) (PV.arr .big [7, 8, 9]) (PV.arr .big [70, 80, 90, 0, 0]) (PV.arr .big [])
      (PV.int 8) (PV.int 20) (PV.int 21) (PV.int 200) (PV.int 210)
      = [PV.arr .big [7, 20, 9, 21], PV.arr .big [70, 200, 90, 210, 0], PV.arr .big []] := by
  decide +kernel

end BB
