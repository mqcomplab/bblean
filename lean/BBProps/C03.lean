/-
C03 — clusters respect the similarity threshold.

Every reported cluster with two or more members meets the bound of a (criterion, threshold) pair in force at some
insertion of the history (`inForce`, from `visited` of `BBProofs/Ops.lean`; since the start, not the last reset): `stat`
of its summary (`BBModel/Merges.lean`: iSIM or radius complement, by the library's float formula) is at least that
threshold.  With never-merge every cluster is a singleton.  The bound is on the stored summary; that this is the
members' summary is C02, under `Consistent`, and C11 relates the float value to the exact rational.
-/
import BBProps.C01
import BBProofs.Merges
import BBProofs.GenEq3
import BBProofs.GenEq2

namespace BB

/-- all configurations in force at some insertion of a history -/
def inForce (X : ExpTab) : Est → List Op → List Cfg
  | _, [] => []
  | e, op :: ops => visited e op ++ inForce X (step X e op).1 ops

/-- the bound a configuration promises for a cluster summary -/
def Bound (cfg : Cfg) (c : Clu) : Prop := ∃ v, stat cfg.merge.crit c.summary = some v ∧ cfg.thr ≤ v

/-- the cluster predicate of C03 relative to a set `G` of configurations -/
def Thr (G : Cfg → Prop) (c : Clu) : Prop := 1 ≤ c.n ∧ (2 ≤ c.n → ∃ cfg', G cfg' ∧ Bound cfg' c)

theorem merge_summary (c s : Clu) : (c.merge s).summary = c.mergedSummary s := by
  simp only [Clu.summary, Clu.merge, Clu.mergedSummary, Summary.mk.injEq, and_true, List.map_map]
  exact List.map_congr_left fun x _ => wrap_wrap _ _

theorem mergeClosed_thr (X : ExpTab) (G : Cfg → Prop) (cfg : Cfg) (hG : G cfg) :
    MergeClosed (refPolicy X) (Thr G) cfg := by
  intro c s hc hs ha
  rw [refPolicy_accept] at ha
  have hn : (c.merge s).n = c.n + s.n := rfl
  have h2 : 2 ≤ (c.mergedSummary s).n := by
    have : (c.mergedSummary s).n = c.n + s.n := rfl
    have := hc.1; have := hs.1; omega
  refine ⟨by have := hc.1; omega, fun _ => ⟨cfg, hG, ?_⟩⟩
  obtain ⟨v, hv, hle⟩ := accept_sound cfg.merge X cfg.thr _ _ _ h2 ha
  exact ⟨v, by rw [merge_summary]; exact hv, hle⟩

/-- `asUnit` keeps the count and the summary, by definition -/
theorem thr_asUnit (G : Cfg → Prop) (c : Clu) (h : Thr G c) : Thr G c.asUnit := h

theorem inForce_along {X : ExpTab} {G : Cfg → Prop} : ∀ {ops : List Op} {e : Est},
    (∀ cfg' ∈ inForce X e ops, G cfg') → Along (refPolicy X) (fun e op => ∀ cfg' ∈ visited e op, G cfg') e ops
  | [], _, _ => trivial
  | _ :: _, _, h => ⟨fun c hc => h c (List.mem_append_left _ hc),
      inForce_along fun c hc => h c (List.mem_append_right _ hc)⟩

/-- a cluster predicate that singletons satisfy and that merges accepted under the configurations in force keep holds
of every reported cluster -/
theorem run_inForce (X : ExpTab) (cfg : Cfg) (hbf : 2 ≤ cfg.bf) (F : Nat) (ops : List Op)
    (hwf : ∀ op ∈ ops, op.WF F) (Q : Clu → Prop) (G : Cfg → Prop) (hunit : ∀ c, Q c → Q c.asUnit)
    (hone : ∀ c : Clu, c.n = 1 → Q c) (hm : ∀ cfg', G cfg' → MergeClosed (refPolicy X) Q cfg')
    (hG : ∀ cfg' ∈ inForce X (init cfg) ops, G cfg') :
    ∀ c ∈ (run X (init cfg) ops).st.sortedClus, Q c := by
  exact (EInv.of_history (F := F) (refPolicy_valid X) hunit hone hm hbf
    (((along_const _ hwf).and (inForce_along hG)).mono fun _ op h => ⟨(C01_wf_iff_wfl F op).mp h.1, h.2⟩)).q_sortedClus

/-- **C03**: a reported cluster with ≥ 2 members meets the bound of a configuration in force at some insertion -/
theorem C03_threshold (X : ExpTab) (cfg : Cfg) (hbf : 2 ≤ cfg.bf) (F : Nat) (ops : List Op)
    (hwf : ∀ op ∈ ops, op.WF F) :
    ∀ c ∈ (run X (init cfg) ops).st.sortedClus, 2 ≤ c.n →
      ∃ cfg' ∈ inForce X (init cfg) ops, ∃ v, stat cfg'.merge.crit c.summary = some v ∧ cfg'.thr ≤ v :=
  fun c hc => (run_inForce X cfg hbf F ops hwf (Thr (· ∈ inForce X (init cfg) ops)) _ (thr_asUnit _)
    (fun c h1 => ⟨by omega, fun h2 => by omega⟩) (mergeClosed_thr X _) (fun _ h => h) c hc).2

/-- with never-merge in force at every insertion, every cluster is a singleton -/
theorem C03_never (X : ExpTab) (cfg : Cfg) (hbf : 2 ≤ cfg.bf) (F : Nat) (ops : List Op)
    (hwf : ∀ op ∈ ops, op.WF F) (hnever : ∀ cfg' ∈ inForce X (init cfg) ops, cfg'.merge.crit = .never) :
    ∀ c ∈ (run X (init cfg) ops).st.sortedClus, c.n = 1 :=
  run_inForce X cfg hbf F ops hwf (fun c => c.n = 1) (fun cfg' => cfg'.merge.crit = .never) (fun _ h => h)
    (fun _ h => h) (fun cfg' hc c s _ _ ha => by
      rw [refPolicy_accept, accept_never _ _ _ _ _ _ hc] at ha
      exact absurd ha (by decide)) hnever

/-- acceptance implies the bound, for every criterion: the one step `C03_threshold` rests on (`accept_sound` of
`BBProofs/Merges.lean`, as is `C10_accept_sound`) -/
theorem C03_accept_sound (m : MergeFn) (X : ExpTab) (t : Rat) (new old nom : Summary) (hn : 2 ≤ new.n)
    (h : accept m X t new old nom = true) : ∃ v, stat m.crit new = some v ∧ t ≤ v :=
  accept_sound m X t new old nom hn h

/-! `inForce` evaluated: one configuration for the fit, none for the change of threshold, one for each of the two
re-clustering iterations. -/
example : (inForce { E := fun _ => 1, off := 0 } (init { thr := 1/2, bf := 3, merge := { crit := .diameter } })
    [.fit [[true]] none, .setThr (1/4), .recluster 2 0 [] false]).length = 3 := by
  simp [inForce, visited]

/-! ## The same for the code itself

`BBGen.*` is the Lean text that `tools/py2lean.py` writes from the Python source (here `_merges.py` and
`_BFSubcluster.merge_subcluster`) each time the check runs. -/

/-- code: when the criterion object built by `get_merge_accept_fn(name, tol)` accepts at threshold `t`, the statistic it
promises, of the merged summary, is at least `t` -/
theorem C03_code_accept_sound (expf : Rat → Rat) (c : Crit) (tol t : Rat) (new old nom : Summary) (w w' w'' : W)
    (hn : SumOk new) (ho : SumOk old) (hO : 1 ≤ old.n) (h2 : 2 ≤ new.n)
    (h : BBGen.MergeAcceptFunction_call expf (BBGen.get_merge_accept_fn expf (PV.str c.name) (PV.flt (some tol))) (PV.flt (some t))
      (PV.arr w new.ls) (PV.int new.n) (PV.arr w' old.ls) (PV.arr w'' nom.ls) (PV.int old.n) (PV.int nom.n)
        = PV.bool true) :
    ∃ v, stat c new = some v ∧ t ≤ v :=
  C03_accept_sound ⟨c, tol⟩ _ t new old nom h2 ((codeAccept_iff expf c tol t new old nom w w' w'' hn ho hO).mp h)

/-- code: when the translated `merge_subcluster` returns `True`, the object holds the merged summary and the promised
statistic of it is at least the threshold.  (That leaf clusters grow in no other way is not stated here; see C07.) -/
theorem C03_code_merge_bound (expf : Rat → Rat) (c : Crit) (tol thr : Rat) (a b : Clu) (child scent schild : PV)
    (ha : CluOk a) (hb : CluOk b) (hlen : a.ls.length = b.ls.length) (hn : a.n + b.n < 2 ^ 53)
    (hnew : SumOk (a.mergedSummary b)) (hold : SumOk a.summary) (hO : 1 ≤ a.n) (h2 : 1 ≤ b.n)
    (rest : List PV)
    (h : BBGen._BFSubcluster_merge_subcluster expf (bufOf a) (PV.arr .u8 (pack a.cent)) child (PV.arr .big a.ids)
          (bufOf b) scent schild (PV.arr .big b.ids) (PV.flt (some thr)) (objOf expf ⟨c, tol⟩) = PV.bool true :: rest) :
    rest = stateOf (a.merge b) child ∧ ∃ v, stat c (a.mergedSummary b) = some v ∧ thr ≤ v := by
  rw [gen_merge_subcluster expf ⟨c, tol⟩ thr a b child scent schild ha hb hlen hn hnew hold hO] at h
  by_cases hacc : accept ⟨c, tol⟩ (tabOf expf) thr (a.mergedSummary b) a.summary b.summary = true
  · simp only [hacc, if_true, List.cons.injEq, true_and] at h
    exact ⟨h.symm, C03_accept_sound ⟨c, tol⟩ _ thr _ _ _ (by show 2 ≤ a.n + b.n; omega) hacc⟩
  · simp [hacc] at h

end BB
