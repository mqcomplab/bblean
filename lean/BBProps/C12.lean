/-
C12 — Tanimoto, centroid, medoid and bit-packing primitives are exact.
Model: `pack` / `unpack`, `popBytes` / `popWords`, `jtPacked` / `jtBits` / `simMatrix`, `centroidFromSum`, `medoidIdx`,
`mostDissimilar` (BBModel/Bits.lean, Similarity.lean); medoid and most-dissimilar search on unpacked rows.
Not covered: memory alignment (the model's word view has no addresses; exercised only); that `np.packbits`,
`np.unpackbits`, `np.bitwise_count` are what `pack`, `unpack`, the popcounts transcribe (correspondence runs).
-/
import BBProofs.Bits
import BBProofs.Fl
import BBProofs.RefPolicy
import BBProofs.GenEq

namespace BB

/-- the first clause: packed Tanimoto is |A∧B| / |A∨B| correctly rounded whenever the union is non-empty -/
theorem C12_jt (a b : Row) (h : a.length = b.length) (hu : 0 < popc (orRow a b)) :
    jtPacked (pack a) (pack b) = rnd ((popc (andRow a b) : ℚ) / (popc (orRow a b) : ℚ)) := by
  rw [jtPacked_pack a b h]
  have ho := popc_orRow a b h
  unfold jtBits jtCounts fdiv
  have : max (popc a + popc b - popc (andRow a b)) 1 = popc (orRow a b) := by omega
  rw [this]

/-- an empty first fingerprint gives 0, whatever the second -/
theorem C12_jt_empty (a b : Row) (ha : popc a = 0) : jtBits a b = 0 :=
  jtBits_eq_zero_of_popc_eq_zero_left a b ha

/-- the clause "a finite value in [0, 1]", for every pair -/
theorem C12_jt_range (a b : Row) : 0 ≤ jtBits a b ∧ jtBits a b ≤ 1 :=
  ⟨jtBits_nonneg rnd_monotone rnd_zero a b, jtBits_le_one rnd_monotone rnd_one a b⟩

/-- the clause "symmetrically" -/
theorem C12_symm (a b : Row) : jtBits a b = jtBits b a := jtBits_comm a b

/-- off the diagonal the matrix form is the pairwise form (symmetry of the matrix follows with `C12_symm`) -/
theorem C12_matrix (rows : List Row) (i j : Nat) (hi : i < rows.length) (hj : j < rows.length) (hij : i ≠ j) :
    ((simMatrix rows).getD i []).getD j 0 = jtBits (rows.getD i []) (rows.getD j []) := by
  unfold simMatrix
  simp only [List.getD_eq_getElem?_getD, List.getElem?_map, List.getElem?_range hi, List.getElem?_range hj,
    Option.map_some, Option.getD_some, hij, if_false]
  split
  · exact jtBits_comm _ _
  · rfl

/-- the diagonal is 1, also for an empty row, whose pairwise value is 0 -/
theorem C12_matrix_diag (rows : List Row) (i : Nat) (hi : i < rows.length) :
    ((simMatrix rows).getD i []).getD i 0 = 1 := by
  unfold simMatrix
  simp [List.getD_eq_getElem?_getD, List.getElem?_map, List.getElem?_range hi]

/-- popcount through the uint64 view = popcount over bytes (any byte count) -/
theorem C12_word_byte (bs : List Nat) (h : ∀ b ∈ bs, b < 256) : popWords bs = popBytes bs :=
  popWords_eq_popBytes' bs h

/-- the packed computation equals the computation on bits for every byte width -/
theorem C12_packed (a b : Row) (h : a.length = b.length) : jtPacked (pack a) (pack b) = jtBits a b :=
  jtPacked_pack a b h

/-- unpacking inverts packing for every feature count -/
theorem C12_unpack_pack (r : Row) : unpack (pack r) r.length = r := unpack_pack r

/-- packing inverts unpacking at the full width -/
theorem C12_pack_unpack (bs : List Nat) (h : ∀ b ∈ bs, b < 256) : pack (unpack bs (8 * bs.length)) = bs :=
  pack_unpack bs h

theorem C12_pack_length (r : Row) : (pack r).length = (r.length + 7) / 8 := pack_length r

/-- the centroid is the per-bit majority with ties set (two or more rows) -/
theorem C12_centroid (rows : List Row) (hn : 2 ≤ rows.length) (i : Nat) :
    (centroidFromSum (colSum rows) rows.length).getD i false =
      decide (rows.length ≤ 2 * (rows.filter (fun r => r.getD i false)).length) :=
  centroid_majority' rows hn i

/-- the medoid index is a row minimising complementary similarity (three or more rows) -/
theorem C12_medoid (rows : List Row) (h : 3 ≤ rows.length) (j : Nat) (hj : j < rows.length) :
    medoidIdx rows < rows.length ∧
    optVal ((complIsim rows).getD (medoidIdx rows) none) ≤ optVal ((complIsim rows).getD j none) := by
  have hl : (complIsim rows).length = rows.length := by unfold complIsim; split <;> simp
  have hlt := argminFirst_lt ((complIsim rows).map optVal)
    (List.ne_nil_of_length_pos (by rw [List.length_map, hl]; omega))
  have hmin := argminFirst_min ((complIsim rows).map optVal)
  unfold medoidIdx
  rw [if_neg (by omega)]
  rw [List.length_map, hl] at hlt
  have := hmin j (by rw [List.length_map, hl]; exact hj)
  simp only [List.getElem_map] at this
  rw [List.getD_eq_getElem?_getD, List.getD_eq_getElem?_getD,
    List.getElem?_eq_getElem (hl ▸ hlt), List.getElem?_eq_getElem (hl ▸ hj)]
  exact ⟨hlt, this⟩

/-- the most-dissimilar search returns valid row indices and the similarities to exactly those rows -/
theorem C12_dissim (Y : List Row) (hne : Y ≠ []) :
    (mostDissimilar Y).1 < Y.length ∧ (mostDissimilar Y).2.1 < Y.length ∧
    (mostDissimilar Y).2.2.1 = Y.map (fun y => jtBits y (Y.getD (mostDissimilar Y).1 [])) ∧
    (mostDissimilar Y).2.2.2 = Y.map (fun y => jtBits y (Y.getD (mostDissimilar Y).2.1 [])) := by
  have h := mostDissimilar_proj Y hne
  exact ⟨h.1, h.2.1, h.2.2.1, h.2.2.2.1⟩

/-! Two 9-bit fingerprints with 4 and 2 bits set, 2 in common. -/
example : jtPacked (pack [true, true, false, false, true, false, false, false, true])
    (pack [true, false, false, false, true, false, false, false, false]) = rnd (2 / 4) := by decide +kernel

/-! ## The same for the code itself

`BBGen.*` is the Lean text `tools/py2lean.py` writes from the Python source each time the check runs (here
`centroid_from_sum` only); `PV` is the value algebra of `BBModel/PyNum.lean`. -/

/-- `centroid_from_sum(ls, n, pack=False)` as translated returns the bits of the model's centroid -/
theorem C12_code_centroid (expf : Rat → Rat) (w : W) (ls : List Nat) (n : Nat)
    (hk : ∀ k ∈ ls, k ≤ n) (hn : n < 2 ^ 53) :
    BBGen.centroid_from_sum expf (PV.arr w ls) (PV.int n) (PV.bool false)
      = PV.arr .u8 (rowToNat (centroidFromSum ls n)) := gen_centroid_unpacked expf w ls n hk hn

/-- `centroid_from_sum(ls, n)` (packed) as translated returns `np.packbits` of the same bits -/
theorem C12_code_centroid_packed (expf : Rat → Rat) (w : W) (ls : List Nat) (n : Nat)
    (hk : ∀ k ∈ ls, k ≤ n) (hn : n < 2 ^ 53) :
    BBGen.centroid_from_sum expf (PV.arr w ls) (PV.int n) (PV.bool true)
      = PV.arr .u8 (pack (centroidFromSum ls n)) := gen_centroid_packed expf w ls n hk hn

/-- `C12_centroid` for the translated function: bit `i` is set iff `n ≤ 2·k_i` -/
theorem C12_code_majority (expf : Rat → Rat) (w : W) (ls : List Nat) (n : Nat) (h2 : 2 ≤ n)
    (hk : ∀ k ∈ ls, k ≤ n) (hn : n < 2 ^ 53) :
    BBGen.centroid_from_sum expf (PV.arr w ls) (PV.int n) (PV.bool false)
      = PV.arr .u8 (ls.map (fun k => if n ≤ 2 * k then 1 else 0)) := by
  rw [gen_centroid_unpacked expf w ls n hk hn]
  have : ¬ n ≤ 1 := by omega
  simp [centroidFromSum, this, rowToNat, List.map_map, Function.comp]

end BB
