/-
C02 — reported cluster summaries are exact for their members.

`Exact D c` (`BBProofs/Exact.lean`): count, per-bit sums and majority centroid (ties set) of `c` are those of its member
labels' fingerprints, `D` being the data set indexed by label, and its counters have the narrowest width.  It holds of
every reported cluster along every history that is reset-free, has implicit labels and is `Consistent` with `D`, across
all width promotions (the arithmetic is `Clu.merge`, `Clu.update`, `minSafe`).  Modelled, not proved: `ls >= n * 0.5` as
`2·k ≥ n` (exact below 2^53); from 2^64 members on, where `min_safe_uint` raises, an unbounded counter `W.big`.  That
the Python objects hold what the model holds is compared per leaf on generated histories.
-/
import BBProofs.OpsWF
import BBProofs.RefPolicy
import BBProofs.GenEq
import BBProofs.GenEq3
import BBProofs.GenEq6

namespace BB

/-- side conditions of one operation, in Python terms: row `i` of a `fit` gets the label `_num_fitted_fps + i` and is
`D` there; `refine_inplace(X, initial_mol=im)` is given the fitted rows (`X[id - im] = D id`); no `reset`.  The guard
`isLeavesOnly = false` exempts a `fit` after `delete_internal_nodes()` has released the internal nodes: such a `fit`
raises `ValueError` and inserts nothing. -/
def OpData (F : Nat) (D : Nat → Row) (e : Est) : Op → Prop
  | .fit rows labels => labels = none ∧ (∀ r0, rows.head? = some r0 → r0.length = F) ∧
      (e.st.isLeavesOnly = false → ∀ i (hi : i < rows.length), rows[i].length = F → D (e.numFitted + i) = rows[i])
  | .refine _ data im _ => (∀ r ∈ data, r.length = F) ∧ ∀ id r, im ≤ id → data[id - im]? = some r → r = D id
  | .setMerge _ _ _ b => ∀ b', b = some b' → 2 ≤ b'
  | .setBf b => 2 ≤ b
  | .reset => False
  | _ => True

/-- `OpData` at every step of the history -/
def Consistent (X : ExpTab) (F : Nat) (D : Nat → Row) : Est → List Op → Prop
  | _, [] => True
  | e, op :: ops => OpData F D e op ∧ Consistent X F D (step X e op).1 ops

theorem consistent_along {X : ExpTab} {F : Nat} {D : Nat → Row} : ∀ {ops : List Op} {e : Est},
    Consistent X F D e ops → Along (refPolicy X) (OpD F D) e ops
  | [], _, _ => trivial
  | _ :: _, _, h => ⟨h.1, consistent_along h.2⟩

/-- **C02**: every reported cluster (sorted report or leaf order) is exact for its members -/
theorem C02_exact (X : ExpTab) (cfg : Cfg) (hbf : 2 ≤ cfg.bf) (F : Nat) (D : Nat → Row) (ops : List Op)
    (h : Consistent X F D (init cfg) ops) :
    (∀ c ∈ (run X (init cfg) ops).st.sortedClus, Exact D c) ∧
    (∀ c ∈ (run X (init cfg) ops).st.leafClus, Exact D c) := by
  have hinv : EInv F (ExactN D) (run X (init cfg) ops) :=
    (EInv.init F _ cfg hbf).run (refPolicy_valid X) (exactN_asUnit D)
      (along_opD (consistent_along h))
  exact ⟨fun c hc => (hinv.q_sortedClus c hc).1, fun c hc => (hinv.q_leafClus c hc).1⟩

/-- by definition of the model: reported member lists and reported centroids are projections of one list of sub-clusters
(the pair list is built inside the statement, as `get_centroids_mol_ids` builds it) -/
theorem C02_aligned (e : Est) (sort : Bool) :
    e.clusters sort = ((if sort then e.st.sortedClus else e.st.leafClus).map (·.ids)) ∧
    ((if sort then e.st.sortedClus else e.st.leafClus).map (fun c => (c.cent, c.ids))).map (·.2) = e.clusters sort := by
  constructor
  · rfl
  · simp [Est.clusters, List.map_map, Function.comp_def]

/-- the centroid of an exact cluster is the per-bit majority of its members, ties set to 1 -/
theorem C02_majority (D : Nat → Row) (c : Clu) (h : Exact D c) (h2 : 2 ≤ c.n) (i : Nat) :
    c.cent.getD i false = decide (c.n ≤ 2 * ((c.ids.map D).filter (fun r => r.getD i false)).length) :=
by
  have hl : (c.ids.map D).length = c.n := by rw [List.length_map, h.n_eq]
  rw [h.cent_eq, h.ls_eq, ← hl]
  exact centroid_majority' (c.ids.map D) (by omega) i

/-- **no wrap-around at any width**: on exact summaries the width-limited arithmetic of a merge equals unbounded
arithmetic -/
theorem C02_no_wrap_merge (D : Nat → Row) (c s : Clu) (hc : Exact D c) (hs : Exact D s) :
    (c.merge s).ls = addLs c.ls s.ls ∧ (c.merge s).n = c.n + s.n ∧ (c.merge s).w = minSafe (c.n + s.n) :=
  merge_eq_join hc hs ▸ ⟨rfl, rfl, rfl⟩

/-- the same for the in-place update of a tracking entry -/
theorem C02_no_wrap_update (D : Nat → Row) (c s : Clu) (hc : Exact D c) (hs : Exact D s) :
    (c.update s).ls = addLs c.ls s.ls ∧ (c.update s).n = c.n + s.n ∧ (c.update s).w = minSafe (c.n + s.n) :=
  ⟨(update_unbounded hc hs).1, (update_unbounded hc hs).2, rfl⟩

/-- the chosen width is the narrowest unsigned width that holds the count -/
theorem C02_narrowest (n : Nat) (h : n < 2 ^ 64) (w : W) (hw : n < 2 ^ w.bits) : (minSafe n).bits ≤ w.bits :=
  minSafe_narrowest n h w hw

/-- below 2^64 the counter is one of the four NumPy widths, never the model's `W.big` -/
theorem C02_width_real (n : Nat) (h : n < 2 ^ 64) : minSafe n ≠ .big :=
  (minSafe_ne_big_iff n).mpr h

/-! `Clu.merge` across 255/256: sums `[256, 1]`, not `[0, 1]` (model arithmetic only; no `Exact` involved). -/
example : (Clu.merge { n := 255, w := .u8, ls := [255, 0], ids := List.range 255, cent := [true, false] }
    (Clu.ofRow [true, true] 255)).ls = [256, 1] := by decide

/-! ## The same for the code itself

`BBGen.*` is the Lean text that `tools/py2lean.py` writes from the Python source each time the check runs. -/

/-- code: `min_safe_uint(n)` returns the narrowest unsigned dtype holding `n` and raises `ValueError` exactly from
2^64 on -/
theorem C02_code_min_safe_uint (expf : Rat → Rat) (n : Nat) :
    BBGen.min_safe_uint expf (PV.int n) =
      if n < 2 ^ 64 then PV.dtype (some (minSafe n)) else PV.err "ValueError" := by
  rw [gen_min_safe_uint]
  unfold minSafe? minSafe
  split_ifs <;> first | rfl | omega

/-- code: the centroid stored with a summary is the majority vote (packed) -/
theorem C02_code_centroid (expf : Rat → Rat) (w : W) (ls : List Nat) (n : Nat)
    (hk : ∀ k ∈ ls, k ≤ n) (hn : n < 2 ^ 53) :
    BBGen.centroid_from_sum expf (PV.arr w ls) (PV.int n) (PV.bool true)
      = PV.arr .u8 (pack (centroidFromSum ls n)) := gen_centroid_packed expf w ls n hk hn

/-! `stateOf c child`: the four `__slots__` of `_BFSubcluster` for the model cluster `c` — `_buffer` (the sums followed by
the count, in one unsigned array of width `c.w`), `packed_centroid`, `child`, `mol_indices`. -/

/-- code: `self.update(sub)` on exact summaries yields the object of the exact summary of the union, its buffer in the
narrowest width for the new count whatever the two widths were -/
theorem C02_code_update (expf : Rat → Rat) (D : Nat → Row) (c s : Clu) (child scent schild : PV)
    (hc : Exact D c) (hs : Exact D s) (hlen : c.ls.length = s.ls.length) (hn : c.n + s.n < 2 ^ 53) :
    ∃ c', BBGen._BFSubcluster_update expf (bufOf c) (PV.arr .u8 (pack c.cent)) child (PV.arr .big c.ids)
            (bufOf s) scent schild (PV.arr .big s.ids) = stateOf c' child
      ∧ Exact D c' ∧ c'.ids = c.ids ++ s.ids ∧ c'.n = c.n + s.n ∧ c'.ls = addLs c.ls s.ls ∧ c'.w = minSafe (c.n + s.n) := by
  refine ⟨c.update s, gen_update expf c s child scent schild (cluOk_of_exact D c hc (by omega))
    (cluOk_of_exact D s hs (by omega)) hlen hn, exact_update hc hs, rfl, ?_, ?_, rfl⟩
  · exact (update_unbounded hc hs).2
  · exact (update_unbounded hc hs).1

/-- code: `self.merge_subcluster(nominee, threshold, fn)`, `fn` built by `get_merge_accept_fn`, returns whether the
criterion accepts; if so `self` becomes the object of the exact summary of the union, else it is unchanged -/
theorem C02_code_merge (expf : Rat → Rat) (D : Nat → Row) (m : MergeFn) (thr : Rat) (c s : Clu)
    (child scent schild : PV) (hc : Exact D c) (hs : Exact D s) (hlen : c.ls.length = s.ls.length)
    (hn : c.n + s.n < 2 ^ 53) (hnew : SumOk (c.mergedSummary s)) (hold : SumOk c.summary) (hO : 1 ≤ c.n) :
    ∃ c', BBGen._BFSubcluster_merge_subcluster expf (bufOf c) (PV.arr .u8 (pack c.cent)) child (PV.arr .big c.ids)
            (bufOf s) scent schild (PV.arr .big s.ids) (PV.flt (some thr)) (objOf expf m)
          = PV.bool (accept m (tabOf expf) thr (c.mergedSummary s) c.summary s.summary) :: stateOf c' child
      ∧ Exact D c'
      ∧ c'.ids = (if accept m (tabOf expf) thr (c.mergedSummary s) c.summary s.summary then c.ids ++ s.ids else c.ids) := by
  have h := gen_merge_subcluster expf m thr c s child scent schild (cluOk_of_exact D c hc (by omega))
    (cluOk_of_exact D s hs (by omega)) hlen hn hnew hold hO
  by_cases ha : accept m (tabOf expf) thr (c.mergedSummary s) c.summary s.summary = true
  · exact ⟨c.merge s, by rw [h]; simp [ha], exact_merge hc hs, by simp [ha, Clu.merge]⟩
  · exact ⟨c, by rw [h]; simp [ha], hc, by simp [ha]⟩

/-- code: `C02_code_merge` with `SumOk` spelled out: merged count below the float-exact range, no uint64 wrap-around in
the statistics -/
theorem C02_code_merge_exact (expf : Rat → Rat) (D : Nat → Row) (m : MergeFn) (thr : Rat) (c s : Clu)
    (child scent schild : PV) (hc : Exact D c) (hs : Exact D s) (hlen : c.ls.length = s.ls.length)
    (hn : c.n + s.n + 1 < 2 ^ 53) (hO : 1 ≤ c.n)
    (hb : (c.n + s.n + 1) * ((addLs c.ls s.ls).sum + c.ls.length) < 2 ^ 64) :
    ∃ c', BBGen._BFSubcluster_merge_subcluster expf (bufOf c) (PV.arr .u8 (pack c.cent)) child (PV.arr .big c.ids)
            (bufOf s) scent schild (PV.arr .big s.ids) (PV.flt (some thr)) (objOf expf m)
          = PV.bool (accept m (tabOf expf) thr (c.mergedSummary s) c.summary s.summary) :: stateOf c' child
      ∧ Exact D c'
      ∧ c'.ids = (if accept m (tabOf expf) thr (c.mergedSummary s) c.summary s.summary then c.ids ++ s.ids else c.ids) := by
  have hcok := cluOk_of_exact D c hc (by omega)
  have hsok := cluOk_of_exact D s hs (by omega)
  have hmls := mergedSummary_ls c s hcok hsok hlen
  have hle := addLs_le c.ls s.ls hlen c.n s.n hcok.le hsok.le
  have hlen2 := addLs_length_eq c.ls s.ls hlen
  have hnew : SumOk (c.mergedSummary s) := by
    apply sumOk_of_consistent
    · rw [hmls]; exact hle
    · show c.n + s.n + 1 < 2 ^ 53; exact hn
    · show (c.n + s.n + 1) * ((c.mergedSummary s).ls.sum + (c.mergedSummary s).ls.length) < 2 ^ 64
      rw [hmls, hlen2]; exact hb
  have hsum : c.ls.sum ≤ (addLs c.ls s.ls).sum := by
    rw [sum_addLs _ _ hlen]; omega
  have hold : SumOk c.summary := by
    apply sumOk_of_consistent
    · exact hcok.le
    · show c.n + 1 < 2 ^ 53; omega
    · show (c.n + 1) * (c.ls.sum + c.ls.length) < 2 ^ 64
      calc (c.n + 1) * (c.ls.sum + c.ls.length) ≤ (c.n + s.n + 1) * ((addLs c.ls s.ls).sum + c.ls.length) :=
            Nat.mul_le_mul (by omega) (by omega)
        _ < 2 ^ 64 := hb
  exact C02_code_merge expf D m thr c s child scent schild hc hs hlen (by omega) hnew hold hO

/-- code: re-importing the buffer and member list of an exact summary (as `_fit_buffers`, `recluster_inplace`,
`refine_inplace` and the tree-merging rounds do) passes the pairing check and yields the object of that very summary -/
theorem C02_code_reimport (expf : Rat → Rat) (D : Nat → Row) (c : Clu) (wi : W) (nf : PV)
    (hc : Exact D c) (hn : c.n < 2 ^ 53) :
    BBGen._BFSubcluster_init expf PV.pynone (PV.arr wi c.ids) nf (bufOf c) (PV.bool true)
      = PV.pynone :: stateOf c PV.pynone := by
  have h := gen_subcluster_init_buffer expf c.w c.ls c.n c.ids wi nf true (exact_sum_le hc) hn
  unfold bufOf
  rw [h]
  have hlen : ¬ (true = true ∧ c.ids.length ≠ c.n) := by
    rintro ⟨_, hne⟩; exact hne hc.n_eq.symm
  rw [show Clu.ofBuffer c.w c.ls c.n c.ids = c from asUnit_eq hc, if_neg hlen]

end BB
