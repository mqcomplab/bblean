/-
C19 — cluster analysis (`bblean/analysis.py`) and the CHI, DBI, Dunn indices (`bblean/metrics.py`) do not depend on
representation: array / file / file sequence, packed / unpacked, order of rows and of clusters.
Model: `selectClusters`, `clusterAnalysisP` (over a row provider), `clusterAnalysis`, `clusterAnalysisPacked`, `chi`, `dbi`,
`dunn` and their `…Packed` forms (BBModel/Metrics.lean).
Partial: the indices are exact rational combinations of the float-valued similarities (the property allows summation-order
differences); divisions by zero are total in the model and excluded from the comparison with the code; a file sequence is
modelled as the concatenation of its files.  Not modelled: `assume_sorted=False`, smiles / scaffold analysis, medoid
centrals.  Dunn does depend on the order of the clusters when one is a singleton (`C19_dunn_nan_witness`).
-/
import BBProofs.Metrics

namespace BB

open BB.Metrics

/-! ### `cluster_analysis` -/

/-- **C19 (selection)**: the reported clusters are the longest prefix of the cluster list with at most `top` clusters, all of
size ≥ `min_size` -/
theorem C19_analysis_select (clusters : List (List Nat)) (top : Option Nat) (m : Nat) :
    selectClusters clusters top m <+: clusters ∧
    (∀ t, top = some t → (selectClusters clusters top m).length ≤ t) ∧
    (∀ c ∈ selectClusters clusters top m, m ≤ c.length) ∧
    ∀ n, (∀ t, top = some t → n ≤ t) → (∀ c ∈ clusters.take n, m ≤ c.length) →
      clusters.take n <+: selectClusters clusters top m := by
  have h := selectGo_spec top m clusters 0
  simp only [Nat.sub_zero, Nat.zero_add] at h
  exact h

/-- **C19 (analysis)**: sizes are the member-list lengths, iSIMs those of the members' fingerprints in any order of the ids
(Python uses `sorted(c)`); total, clusters, singletons and clusters above a size are counted over all clusters -/
theorem C19_analysis (clusters : List (List Nat)) (fps : List Row) (top : Option Nat) (m : Nat) :
    let A := clusterAnalysis clusters fps top m
    let sel := selectClusters clusters top m
    A.sizes = sel.map List.length ∧
    A.isims.length = sel.length ∧
    (∀ (i : Nat) (hi : i < sel.length) (ids : List Nat), ids.Perm sel[i] →
      A.isims[i]? =
        some (isimFromSum (colSum (ids.map (fun j => fps.getD j []))) sel[i].length)) ∧
    A.total = clusters.flatten.length ∧
    A.numClusters = clusters.length ∧
    A.singletons = (clusters.filter (fun c => c.length = 1)).length ∧
    ∀ k, numAbove clusters k = (clusters.filter (fun c => k < c.length)).length := by
  -- the fields of `A`, as `clusterAnalysisP` defines them
  dsimp only [clusterAnalysis, clusterAnalysisP]
  refine ⟨rfl, List.length_map _, ?_, ?_, List.length_map _, ?_, ?_⟩
  · intro i hi ids hp
    rw [List.getElem?_map, List.getElem?_eq_getElem hi]
    simp only [Option.map_some, isimRows]
    rw [colSum_fetch _ _ ids hp, length_fetch]
    rfl
  · rw [← List.sum_eq_foldl, List.length_flatten]
  · rw [countIf_eq, List.countP_map, List.countP_eq_length_filter]
    congr 1
  · intro k
    unfold numAbove
    rw [countIf_eq, List.countP_map, List.countP_eq_length_filter]
    rfl

/-- **C19 (provider)**: the analysis depends on the fingerprints only through the rows of the selected clusters' members -/
theorem C19_provider (clusters : List (List Nat)) (get get' : Nat → Row) (top : Option Nat)
    (m : Nat) (h : ∀ c ∈ selectClusters clusters top m, ∀ i ∈ c, get i = get' i) :
    clusterAnalysisP clusters get top m = clusterAnalysisP clusters get' top m := by
  unfold clusterAnalysisP
  simp only [Analysis.mk.injEq, true_and, and_true]
  exact List.map_congr_left fun c hc => congrArg isimRows (fetch_congr (h c hc))

/-- a file sequence is its concatenation in the model, so this is a rewriting by `h`; that indexing the real
`_FingerprintFileSequence` is indexing the concatenation is `C16_fileseq` -/
theorem C19_provider_files (clusters : List (List Nat)) (files : List (List Row)) (fps : List Row)
    (top : Option Nat) (m : Nat) (h : files.flatten = fps) :
    clusterAnalysis clusters files.flatten top m = clusterAnalysis clusters fps top m := by
  rw [h]

/-- unpacking file by file or unpacking the concatenation gives the same analysis -/
theorem C19_provider_files_packed (clusters : List (List Nat)) (files : List (List (List Nat)))
    (pfps : List (List Nat)) (F : Nat) (top : Option Nat) (m : Nat) (h : files.flatten = pfps) :
    clusterAnalysis clusters (files.map (fun f => f.map (fun b => unpack b F))).flatten top m
      = clusterAnalysisPacked clusters pfps F top m := by
  unfold clusterAnalysisPacked
  rw [← h, List.map_flatten]

/-! ### packed input -/

/-- **C19 (packed)**: `input_is_packed=True, n_features=F` on packed fingerprints gives the analysis of the unpacked ones,
for every `F` -/
theorem C19_packed (clusters : List (List Nat)) (fps : List Row) (F : Nat) (top : Option Nat)
    (m : Nat) (hF : ∀ r ∈ fps, r.length = F) :
    clusterAnalysisPacked clusters (fps.map pack) F top m = clusterAnalysis clusters fps top m := by
  unfold clusterAnalysisPacked
  rw [map_unpack_pack fps F hF]

/-- the same for the three indices (Dunn on packed input uses all `8 * bytes` bits: the zero padding changes nothing) -/
theorem C19_packed_indices (clusters : List (List Row)) (F : Nat)
    (hF : ∀ c ∈ clusters, ∀ r ∈ c, r.length = F) :
    chiPacked F (clusters.map (fun c => c.map pack)) = chi clusters ∧
    dbiPacked F (clusters.map (fun c => c.map pack)) = dbi clusters ∧
    dunnPacked F (clusters.map (fun c => c.map pack)) = dunn clusters := by
  unfold chiPacked dbiPacked dunnPacked dunn
  rw [unpackClusters_pack F clusters hF, List.map_map]
  refine ⟨rfl, rfl, ?_⟩
  congr 1
  apply List.map_congr_left
  intro c _
  exact isimRows_unpack_full c

/-- Python evaluates the similarities of CHI and DBI on packed rows and packed centroids; these are the model's similarities -/
theorem C19_packed_jt (c c' : List Row) (F : Nat) (hF : ∀ r ∈ c, r.length = F)
    (hF' : ∀ r ∈ c', r.length = F) (hne : c ≠ []) (hne' : c' ≠ []) :
    (∀ r ∈ c, jtPacked (pack r) (pack (centroidOf c)) = jtBits r (centroidOf c)) ∧
    jtPacked (pack (centroidOf c)) (pack (centroidOf c'))
      = jtBits (centroidOf c) (centroidOf c') := by
  have hl : (centroidOf c).length = F := centroid_length c F hF hne
  have hl' : (centroidOf c').length = F := centroid_length c' F hF' hne'
  exact ⟨fun r hr => jtPacked_pack _ _ (by rw [hl, hF r hr]), jtPacked_pack _ _ (by rw [hl, hl'])⟩

/-! ### order of the rows, order of the clusters -/

/-- **C19 (rows)**: permuting the rows inside the clusters changes none of the indices -/
theorem C19_perm_rows (clusters clusters' : List (List Row))
    (h : List.Forall₂ List.Perm clusters clusters') :
    chi clusters = chi clusters' ∧ dbi clusters = dbi clusters' ∧
      dunn clusters = dunn clusters' :=
  ⟨chi_perm_rows h, dbi_perm_rows h, dunn_perm_rows h⟩

/-- **C19 (clusters)**: permuting the clusters changes neither CHI nor DBI, nor Dunn when every cluster has two members -/
theorem C19_perm_clusters (clusters clusters' : List (List Row)) (h : clusters.Perm clusters') :
    chi clusters = chi clusters' ∧ dbi clusters = dbi clusters' ∧
      ((∀ c ∈ clusters, 2 ≤ c.length) → dunn clusters = dunn clusters') :=
  ⟨chi_perm_clusters h, dbi_perm_clusters h, dunn_perm_clusters h⟩

/-- **C19 (Dunn, NaN)**: with a singleton cluster the Dunn index depends on the order of the clusters: `max([nan, 0.5])` is
NaN and so is the index, `max([0.5, nan])` is 0.5 and the index is the float nearest 0.8 -/
theorem C19_dunn_nan_witness :
    let A : List (List Row) := [[[true, false]], [[true, true], [true, false]]]
    let B : List (List Row) := [[[true, true], [true, false]], [[true, false]]]
    A.Perm B ∧ dunn A = none ∧ dunn B = some (3602879701896397 / 4503599627370496) := by
  intro A B
  refine ⟨List.Perm.swap _ _ _, ?_, ?_⟩ <;> decide +kernel

/-- a cluster with fewer than two members in first position makes the Dunn index NaN -/
theorem C19_dunn_nan_first (c : List Row) (cs : List (List Row)) (h : c.length < 2) :
    dunn (c :: cs) = none := by
  have hc : isimRows c = none := isim_none _ _ h
  rw [dunn_eq]
  simp only [List.map_cons, hc, pyMaxList, foldl_pyMaxF_none]
  rw [if_neg (by simp), divF_none_right]

/-- six fingerprints of three bits in clusters `{0,2,4}`, `{1,3}`, `{5}`; `top=2, min_size=2` -/
example :
    clusterAnalysis [[4, 0, 2], [1, 3], [5]]
      [[true, true, false], [true, false, false], [true, true, true], [false, false, true],
       [false, true, false], [true, true, true]] (some 2) 2
    = { sizes := [3, 2], isims := [some (1 / 2), some 0], total := 6, numClusters := 3,
        singletons := 1 } := by
  decide +kernel

example : numAbove [[4, 0, 2], [1, 3], [5]] 1 = 2 := by decide

-- a prefix: the later `[6, 7]` is not reported
example : selectClusters [[4, 0, 2], [1, 3], [5], [6, 7]] none 2 = [[4, 0, 2], [1, 3]] := by decide

end BB
