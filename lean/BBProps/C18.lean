/-
C18 — labels, predictions and distances agree with the clusters (`get_assignments`; `labels_`, `predict`, `transform` of the
scikit-learn wrapper `bblean/sklearn.py`).
Model: `assignments`, `sortClus`, `Est.clusters` (BBModel/Estimator.lean); `skLabels`, `skCenters`, `skPredict`,
`skTransform`, `jaccardDist` (BBModel/Sklearn.lean).
Assumed, compared by the correspondence runs only: scikit-learn's `pairwise_distances` (one float64 division, 0 between two
empty rows) and `pairwise_distances_argmin` (first minimum), written into `jaccardDist` and `argminFirst`.  The property
speaks of queries without empty rows; the model's distance is total.  Packed and unpacked estimators are one model; that
the wrapper exposes the same labels for both is exercised only.
-/
import BBProofs.Assign
import BBProps.C01
import BBProofs.GenEq14

namespace BB

/-! ### `get_assignments` -/

/-- **C18 (assignment)**: when the clusters partition `0 .. n-1`, `get_assignments` succeeds and every fingerprint gets the
1-based rank of its cluster -/
theorem C18_assign (clusters : List (List Nat)) (n : Nat)
    (h : clusters.flatten.Perm (List.range n)) :
    ∃ a, assignments clusters n = .ok a ∧ a.length = n ∧
      ∀ (i : Nat) (hi : i < clusters.length) (j : Nat), j ∈ clusters[i] → a[j]? = some (i + 1) := by
  have hnd : clusters.flatten.Nodup := h.nodup_iff.mpr List.nodup_range
  have hlt : ∀ c ∈ clusters, ∀ id ∈ c, id < n := fun c hc id hid =>
    List.mem_range.mp (h.mem_iff.mp (List.mem_flatten.mpr ⟨c, hc, hid⟩))
  have rank : ∀ (i : Nat) (hi : i < clusters.length) (j : Nat), j ∈ clusters[i] →
      (assigned clusters n)[j]? = some (i + 1) := fun i hi j hj => by
    rw [getElem?_assigned clusters (hlt _ (List.getElem_mem hi) j hj),
      labelAt_of_mem clusters 0 j 0 hnd i hi hj, Nat.zero_add]
  -- every position is in a cluster, so none holds 0
  have hno : 0 ∉ assigned clusters n := fun h0 => by
    obtain ⟨j, hj, e⟩ := List.getElem_of_mem h0
    rw [assigned_length] at hj
    obtain ⟨c, hc, hjc⟩ := List.mem_flatten.mp (h.mem_iff.mpr (List.mem_range.mpr hj))
    obtain ⟨i, hi, rfl⟩ := List.getElem_of_mem hc
    have := rank i hi j hjc
    rw [List.getElem?_eq_getElem (by rwa [assigned_length]), e] at this
    cases this
  exact ⟨_, by rw [assignments_eq_assigned, if_pos hlt, if_neg hno], assigned_length _ _, rank⟩

/-- the labels of a valid assignment are cluster ranks `1 .. k` -/
theorem C18_assign_range (clusters : List (List Nat)) (n : Nat)
    (h : clusters.flatten.Perm (List.range n)) (a : List Nat) (ha : assignments clusters n = .ok a)
    (j : Nat) (hj : j < n) :
    ∃ v, a[j]? = some v ∧ 1 ≤ v ∧ v ≤ clusters.length ∧ j ∈ clusters[v - 1]! := by
  obtain ⟨a', e, _, rank⟩ := C18_assign clusters n h
  rw [e] at ha
  cases ha
  have hjn : j ∈ clusters.flatten := h.mem_iff.mpr (by simpa using hj)
  obtain ⟨c, hc, hjc⟩ := List.mem_flatten.mp hjn
  obtain ⟨i, hi, rfl⟩ := List.getElem_of_mem hc
  refine ⟨i + 1, rank i hi j hjc, by omega, by omega, ?_⟩
  simpa [hi] using hjc

/-- **C18 (refusal)**: a fingerprint in no cluster makes `get_assignments` fail with a `ValueError` -/
theorem C18_refuse (clusters : List (List Nat)) (n : Nat)
    (hlt : ∀ c ∈ clusters, ∀ id ∈ c, id < n) (j : Nat) (hj : j < n)
    (hmiss : ∀ c ∈ clusters, j ∉ c) :
    assignments clusters n = .error .value := by
  have hget : (assigned clusters n)[j]? = some 0 := by
    rw [getElem?_assigned clusters hj, labelAt_of_not_mem clusters 0 j 0 hmiss]
  rw [assignments_eq_assigned, if_pos hlt, if_pos (List.mem_of_getElem? hget)]

/-- an id not below `n` makes it fail with an `IndexError` -/
theorem C18_refuse_index (clusters : List (List Nat)) (n : Nat)
    (hbad : ∃ c ∈ clusters, ∃ id ∈ c, n ≤ id) :
    assignments clusters n = .error .index := by
  obtain ⟨c, hc, id, hid, hle⟩ := hbad
  rw [assignments_eq_assigned, if_neg (fun h => Nat.not_lt.mpr hle (h c hc id hid))]

/-- `get_assignments` never returns a vector with an entry 0 ("unlabeled") -/
theorem C18_no_unlabeled (clusters : List (List Nat)) (n : Nat) (a : List Nat)
    (ha : assignments clusters n = .ok a) : 0 ∉ a := by
  rw [assignments_eq_assigned] at ha
  split_ifs at ha with _ h0
  cases ha
  exact h0

/-! ### the order of the report -/

/-- **C18 (order)**: the sorted report is a permutation of the leaf clusters, sizes are non-increasing, and the sort is
stable: a sublist already in non-increasing order keeps its order -/
theorem C18_order (cs : List Clu) :
    (sortClus cs).Perm cs ∧
    ((sortClus cs).map (·.n)).Pairwise (· ≥ ·) ∧
    (∀ k, (sortClus cs).filter (fun c => c.n == k) = cs.filter (fun c => c.n == k)) ∧
    (∀ ys : List Clu, ys.Pairwise (fun a b => b.n ≤ a.n) → ys.Sublist cs → ys.Sublist (sortClus cs)) := by
  refine ⟨sortClus_perm cs, ?_, ?_, fun ys hp hs => sortClus_sublist hp hs⟩
  · rw [List.pairwise_map]
    exact sortClus_pairwise cs
  · intro k
    have hsub : (cs.filter (fun c => c.n == k)).Sublist (sortClus cs) := by
      apply sortClus_sublist _ List.filter_sublist
      rw [List.pairwise_iff_forall_sublist]
      intro a b hab
      have ha : a ∈ cs.filter (fun c => c.n == k) := hab.subset (by simp)
      have hb : b ∈ cs.filter (fun c => c.n == k) := hab.subset (by simp)
      simp only [List.mem_filter, beq_iff_eq] at ha hb
      omega
    have hsub2 := hsub.filter (fun c => c.n == k)
    rw [List.filter_filter] at hsub2
    simp only [Bool.and_self] at hsub2
    have hlen : ((sortClus cs).filter (fun c => c.n == k)).length =
        (cs.filter (fun c => c.n == k)).length := ((sortClus_perm cs).filter _).length_eq
    exact (hsub2.eq_of_length hlen.symm).symm

/-- two clusters of the leaf order that need no swap keep their relative order -/
theorem C18_order_pair (cs : List Clu) (a b : Clu) (hab : b.n ≤ a.n) (h : [a, b].Sublist cs) :
    [a, b].Sublist (sortClus cs) :=
  (C18_order cs).2.2.2 [a, b] (by simpa using hab) h

/-- by definition of the model: centres and member lists are both read off the sorted clusters, in that order -/
theorem C18_centers_aligned (e : Est) :
    skCenters e = e.st.sortedClus.map (·.cent) ∧ e.clusters true = e.st.sortedClus.map (·.ids) ∧
    (skCenters e).length = (e.clusters true).length := by
  refine ⟨rfl, rfl, ?_⟩
  simp [skCenters, Est.clusters]

/-! ### `labels_` -/

/-- **C18 (labels)**: on every reachable state `labels_` is defined (never refused), one label per fitted fingerprint, the
1-based rank of its cluster in the sorted report -/
theorem C18_labels (X : ExpTab) (cfg : Cfg) (hbf : 2 ≤ cfg.bf) (F : Nat) (ops : List Op)
    (hwf : ∀ op ∈ ops, op.WF F) :
    ∃ a, skLabels (run X (init cfg) ops) = .ok a ∧
      a.length = (run X (init cfg) ops).numFitted ∧
      ∀ (i : Nat) (hi : i < ((run X (init cfg) ops).clusters true).length) (j : Nat),
        j ∈ ((run X (init cfg) ops).clusters true)[i] → a[j]? = some (i + 1) :=
  C18_assign _ _ (C01_partition X cfg hbf F ops hwf true)

/-! ### the Jaccard distance, `predict`, `transform` -/

/-- the boolean Jaccard distance lies in [0, 1] -/
theorem C18_dist_range (a b : Row) : 0 ≤ jaccardDist a b ∧ jaccardDist a b ≤ 1 := by
  rw [jaccardDist_eq]
  split
  · exact ⟨le_refl _, zero_le_one⟩
  · next hu =>
    have hpos : (0 : ℚ) < (popc (orRow a b) : ℚ) := by exact_mod_cast Nat.pos_of_ne_zero hu
    have hle : ((popc (xorRow a b) : ℕ) : ℚ) ≤ (popc (orRow a b) : ℚ) := by
      exact_mod_cast popc_xorRow_le_orRow a b
    constructor
    · exact rnd_nonneg (div_nonneg (Nat.cast_nonneg _) hpos.le)
    · exact rnd_le_one ((div_le_one hpos).mpr hle)

theorem C18_dist_self (a : Row) : jaccardDist a a = 0 := by
  rw [jaccardDist_eq, popc_xorRow_self]
  split
  · rfl
  · simp [fdiv, rnd_zero]

/-- **C18 (predict)**: the predicted label is that of a nearest centre, the first one on ties -/
theorem C18_predict (centers : List Row) (hc : centers ≠ []) (x : Row) :
    ∃ (p : Nat) (h1 : 1 ≤ p) (hk : p ≤ centers.length), skPredict centers [x] = [p] ∧
      (∀ (j : Nat) (hj : j < centers.length),
        jaccardDist x (centers[p - 1]'(by omega)) ≤ jaccardDist x centers[j]) ∧
      (∀ (j : Nat) (hj : j < p - 1),
        jaccardDist x (centers[p - 1]'(by omega)) < jaccardDist x (centers[j]'(by omega))) := by
  have hne : centers.map (jaccardDist x) ≠ [] := fun h => hc (List.map_eq_nil_iff.mp h)
  have hlen : (centers.map (jaccardDist x)).length = centers.length := List.length_map _
  have hlt' : argminFirst (centers.map (jaccardDist x)) < centers.length :=
    hlen ▸ argminFirst_lt (centers.map (jaccardDist x)) hne
  refine ⟨1 + argminFirst (centers.map (jaccardDist x)), by omega, by omega, rfl, ?_, ?_⟩
  · intro j hj
    have := argminFirst_min (centers.map (jaccardDist x)) j (hlen.symm ▸ hj)
    simp only [List.getElem_map] at this
    simpa only [Nat.add_sub_cancel_left] using this
  · intro j hj
    have := argminFirst_first (centers.map (jaccardDist x)) j (by omega)
    simp only [List.getElem_map] at this
    simpa only [Nat.add_sub_cancel_left] using this

/-- `predict` works row by row -/
theorem C18_predict_rows (centers : List Row) (X : List Row) :
    (skPredict centers X).length = X.length ∧
    ∀ (r : Nat) (hr : r < X.length),
      skPredict centers [X[r]] = [(skPredict centers X)[r]'(by simpa [skPredict] using hr)] := by
  refine ⟨by simp [skPredict], fun r hr => ?_⟩
  simp [skPredict]

/-- **C18 (transform)**: entry `(r, c)` is the Jaccard distance between query `r` and centre `c` -/
theorem C18_transform (centers : List Row) (X : List Row) :
    (skTransform centers X).length = X.length ∧
    (∀ row ∈ skTransform centers X, row.length = centers.length) ∧
    ∀ (r : Nat) (hr : r < X.length) (c : Nat) (hc : c < centers.length),
      (skTransform centers X)[r]?.bind (·[c]?) = some (jaccardDist X[r] centers[c]) := by
  refine ⟨by simp [skTransform], ?_, ?_⟩
  · intro row hrow
    simp only [skTransform, List.mem_map] at hrow
    obtain ⟨x, _, rfl⟩ := hrow
    simp
  · intro r hr c hc
    simp [skTransform, hr, hc]

/-! Evaluations: an assignment vector, the two refusals, one `xorRow`, two predictions with ties (the first centre wins). -/
example : assignments [[2, 0], [1]] 3 = .ok [1, 2, 1] := by decide
example : assignments [[2, 0]] 3 = .error .value := by decide
example : assignments [[2, 0], [3]] 3 = .error .index := by decide
example : xorRow [true, true, false] [true, false, true] = [false, true, true] := by decide
example : skPredict [[true, false, false], [true, true, false], [true, true, false]]
    [[true, true, false], [false, false, false]] = [2, 1] := by decide +kernel

/-! ### the code: the scikit-learn wrapper

`BBGen.SkBitBirch_*` is the Lean text `tools/py2lean.py` writes from `bblean/sklearn.py` each time the check runs.
`super().fit` and `get_assignments` are untranslated: entries 10 and 11 of the call log, their results (`ga…`) inputs, as
are `compute_labels` (`b`) and the stacked centroids `cs` of the sorted leaves. -/

/-- code: `fit_predict` returns, and stores in `labels_`, the result of the one `get_assignments` call made after the
`super().fit` of this very call, whether `compute_labels` is on or off: never a vector kept from an earlier call -/
theorem C18_code_fit_predict_fresh (expf : Rat → Rat) (w : W) (cs log : List Nat) (b : Bool)
    (l0 c0 sl0 nf0 X y p nfe gaFit gaFp : PV) :
    BBGen.SkBitBirch_fit_predict expf l0 c0 sl0 nf0 (PV.arr .big log) X y p nfe (PV.arr w cs) gaFit gaFp (PV.bool b)
      = [if b then gaFit else gaFp, if b then gaFit else gaFp, PV.arr w cs, PV.arr .big (List.range' 1 cs.length),
         PV.int cs.length, PV.arr .big (log ++ [10, 11])] :=
  gen_sk_fit_predict expf w cs log b l0 c0 sl0 nf0 X y p nfe gaFit gaFp

/-- code: `fit` — centres are the stacked centroids of the sorted leaves, labelled `1 … n`; `labels_` is recomputed exactly when
`compute_labels` is on -/
theorem C18_code_fit (expf : Rat → Rat) (w : W) (cs log : List Nat) (b : Bool) (l0 c0 sl0 nf0 X y p nfe ga : PV) :
    BBGen.SkBitBirch_fit expf l0 c0 sl0 nf0 (PV.arr .big log) X y p nfe (PV.arr w cs) ga (PV.bool b)
      = [PV.str "self", if b then ga else l0, PV.arr w cs, PV.arr .big (List.range' 1 cs.length), PV.int cs.length,
         PV.arr .big (log ++ [10] ++ (if b then [11] else []))] :=
  gen_sk_fit expf w cs log b l0 c0 sl0 nf0 X y p nfe ga

/-- code: `partial_fit` without data raises and changes nothing; with data `labels_` ends as the last assignments computed -/
theorem C18_code_partial_fit (expf : Rat → Rat) (w : W) (cs log : List Nat) (b : Bool) (l0 c0 sl0 nf0 y p nfe gaFit gaPf : PV) :
    BBGen.SkBitBirch_partial_fit expf l0 c0 sl0 nf0 (PV.arr .big log) PV.pynone y p nfe (PV.arr w cs) gaFit gaPf (PV.bool b)
      = [PV.err "ValueError", l0, c0, sl0, nf0, PV.arr .big log] ∧
    ∀ xs : List Nat, BBGen.SkBitBirch_partial_fit expf l0 c0 sl0 nf0 (PV.arr .big log) (PV.arr .u8 xs) y p nfe (PV.arr w cs) gaFit gaPf (PV.bool b)
      = [PV.str "self", if b then gaPf else l0, PV.arr w cs, PV.arr .big (List.range' 1 cs.length), PV.int cs.length,
         PV.arr .big (log ++ [10] ++ (if b then [11, 11] else []))] :=
  gen_sk_partial_fit expf w cs log b l0 c0 sl0 nf0 y p nfe gaFit gaPf

end BB
