/-
C17 — merge configuration is consistent and changes only when asked.
Model: `selectMerge cur crit tol` (BBModel/Estimator.lean), the decision shared by the constructor (`construct`,
`cur = none`) and `set_merge` (`setMerge`, `cur = some current`); it is the logic of bblean after fix b75235c (before it
the constructor rejected every merge-function object and `set_merge` reset a chosen tolerance and mutated before failing).
The routes differ in one case, excluded by `hexp` in `C17_same_fn`: a name of a criterion with a tolerance, passed without
one, falls back on the default in the constructor and on the tolerance in force in `set_merge`.
Not modelled: one merge-function object shared by two estimators; the module-level `set_merge`.
`selectMerge_ok`, `setMerge_ok`, `construct_ok` read a successful call backwards (clause by clause: BBProofs/GenEq4.lean).
-/
import BBModel.Estimator
import BBProofs.GenEq4
import BBProofs.OpsAux

namespace BB

/-- the first clause: constructor and `set_merge` accept exactly the same (criterion, tolerance) arguments, names and objects -/
theorem C17_accept_iff (e : Est) (thr : Rat) (bf : Nat) (a : CritArg) (tol : Option Rat) :
    (∃ e', construct thr bf (some a) tol = .ok e') ↔ (setMerge e (some a) tol none none).2 = none := by
  unfold construct setMerge
  cases a with
  | obj m =>
    cases tol <;> simp [selectMerge]
  | name s =>
    cases h : Crit.ofName? s <;> simp [selectMerge, h]

theorem selectMerge_ok {cur : Option MergeFn} {crit : Option CritArg} {tol : Option Rat} {m : MergeFn}
    (h : selectMerge cur crit tol = .ok m) :
    (∃ m0, crit = some (.obj m0) ∧ tol = none ∧ m = m0.norm) ∨
    (∃ s c, crit = some (.name s) ∧ Crit.ofName? s = some c ∧
      m = MergeFn.norm { crit := c, tol := tolChoice tol (cur.bind MergeFn.tolerance?) }) ∨
    (crit = none ∧ ∃ m0, cur = some m0 ∧
      (tol = none ∧ m = m0 ∨ ∃ t, tol = some t ∧ m0.crit.hasTol = true ∧ m = { m0 with tol := t })) ∨
    (crit = none ∧ cur = none ∧ m = MergeFn.norm { crit := .diameter, tol := tol.getD defaultTol }) := by
  unfold selectMerge at h
  split at h
  · split at h
    · cases h
    · cases h; exact .inl ⟨_, rfl, Option.not_isSome_iff_eq_none.mp ‹_›, rfl⟩
  · split at h
    · cases h
    · cases h; exact .inr (.inl ⟨_, _, rfl, ‹_›, rfl⟩)
  · split at h
    · cases h; exact .inr (.inr (.inl ⟨rfl, _, rfl, .inl ⟨rfl, rfl⟩⟩))
    · split at h
      · cases h; exact .inr (.inr (.inl ⟨rfl, _, rfl, .inr ⟨_, rfl, ‹_›, rfl⟩⟩))
      · cases h
    · cases h; exact .inr (.inr (.inr ⟨rfl, rfl, rfl⟩))

theorem construct_ok {thr : Rat} {bf : Nat} {crit : Option CritArg} {tol : Option Rat} {e : Est}
    (h : construct thr bf crit tol = .ok e) :
    ∃ m, selectMerge none (some (crit.getD (.name "diameter"))) tol = .ok m ∧
      e = init { thr := thr, bf := bf, merge := m } := by
  unfold construct at h
  split at h
  · cases h
  · cases h; exact ⟨_, ‹_›, rfl⟩

/-- a successful `set_merge` changes exactly what it is given; a chosen tolerance survives a call without one unless an object
is passed or the new criterion has none; the tree is untouched -/
theorem C17_frame (e e' : Est) (crit : Option CritArg) (tol thr : Option Rat) (bf : Option Nat)
    (h : setMerge e crit tol thr bf = (e', none)) :
    (thr = none → e'.cfg.thr = e.cfg.thr) ∧ (∀ t, thr = some t → e'.cfg.thr = t) ∧
    (bf = none → e'.cfg.bf = e.cfg.bf) ∧ (∀ b, bf = some b → e'.cfg.bf = b) ∧
    (crit = none → tol = none → e'.cfg.merge = e.cfg.merge) ∧
    (crit = none → e'.cfg.merge.crit = e.cfg.merge.crit) ∧
    (∀ t, tol = some t → e'.cfg.merge.crit.hasTol = true → e'.cfg.merge.tolerance? = some t) ∧
    (tol = none → ∀ t0, e.cfg.merge.tolerance? = some t0 → e'.cfg.merge.crit.hasTol = true →
      (∀ m, crit ≠ some (.obj m)) → e'.cfg.merge.tolerance? = some t0) ∧
    e'.st = e.st ∧ e'.numFitted = e.numFitted := by
  obtain ⟨m, hm, rfl⟩ := setMerge_ok h
  refine ⟨fun h => by simp [h], fun t h => by simp [h], fun h => by simp [h], fun b h => by simp [h], ?_⟩
  rcases selectMerge_ok hm with ⟨m0, rfl, rfl, rfl⟩ | ⟨s, c, rfl, -, rfl⟩ | ⟨rfl, _, hcur, ⟨rfl, rfl⟩ | ⟨t, rfl, ht, rfl⟩⟩ |
    ⟨-, hcur, -⟩
  · simp
  · -- a name: the tolerance is the one passed, else the one in force (`tolChoice`)
    have keep : ∀ T, c.hasTol = true →
        (MergeFn.norm { crit := c, tol := T }).tolerance? = some T := fun T hc => by
      rw [MergeFn.norm, if_pos hc, MergeFn.tolerance?, if_pos hc]
    have hcrit : ∀ T, (MergeFn.norm { crit := c, tol := T }).crit = c := fun T => by
      unfold MergeFn.norm; split <;> rfl
    refine ⟨nofun, nofun, fun t ht hc => ?_, fun ht t0 h0 hc _ => ?_, rfl, rfl⟩
    · subst ht; exact keep _ (hcrit _ ▸ hc)
    · subst ht
      rw [keep _ (hcrit _ ▸ hc)]
      show some (tolChoice none e.cfg.merge.tolerance?) = _
      rw [h0]; rfl
  · cases hcur; simp; exact fun _ h _ => h
  · cases hcur; simp [MergeFn.tolerance?, ht]
  · cases hcur

/-- both routes yield the same merge function when the tolerance is given, the criterion has none, or an object is passed -/
theorem C17_same_fn (e e1 e2 : Est) (thr : Rat) (bf : Nat) (a : CritArg) (tol : Option Rat)
    (hexp : tol.isSome ∨ (∃ m, a = .obj m) ∨ (∃ s c, a = .name s ∧ Crit.ofName? s = some c ∧ c.hasTol = false))
    (h1 : construct thr bf (some a) tol = .ok e1) (h2 : setMerge e (some a) tol none none = (e2, none)) :
    e1.cfg.merge = e2.cfg.merge := by
  obtain ⟨m1, hm1, rfl⟩ := construct_ok h1
  obtain ⟨m2, hm2, rfl⟩ := setMerge_ok h2
  show m1 = m2
  cases a with
  | obj m0 =>
    -- an object: the merge function in force is not looked at
    rw [show (some (CritArg.obj m0)).getD _ = .obj m0 from rfl, selectMerge_obj] at hm1
    rw [selectMerge_obj] at hm2
    exact Except.ok.inj (hm1.symm.trans hm2)
  | name s =>
    -- a name: the two routes differ only in the tolerance the name falls back on
    rw [show (some (CritArg.name s)).getD _ = .name s from rfl, selectMerge_str] at hm1
    rw [selectMerge_str] at hm2
    cases hc : Crit.ofName? s with
    | none => rw [hc] at hm1; cases hm1
    | some c =>
      rw [hc] at hm1 hm2
      cases hm1; cases hm2
      rcases hexp with h | ⟨_, h⟩ | ⟨_, _, h, hc', hno⟩
      · obtain ⟨t, rfl⟩ := Option.isSome_iff_exists.mp h; rfl
      · cases h
      · cases h; rw [hc] at hc'; cases hc'; simp [MergeFn.norm, hno]

/-- a `set_merge` that fails leaves the estimator exactly as it was -/
theorem C17_atomic (e e' : Est) (crit : Option CritArg) (tol thr : Option Rat) (bf : Option Nat) (x : Err)
    (h : setMerge e crit tol thr bf = (e', some x)) : e' = e := by
  unfold setMerge at h
  split at h
  · simp only [Prod.mk.injEq] at h; exact h.1.symm
  · simp at h

/-- by definition of the model: `reset` yields `init e.cfg` (the second conjunct follows from the first) -/
theorem C17_reset (pol : Cfg → Policy) (e : Est) :
    (stepWith pol e .reset).1 = init e.cfg ∧ (stepWith pol e .reset).1.cfg = e.cfg := ⟨rfl, rfl⟩

/-- `rfl` from `C17_reset`: after `reset` any history runs as on a freshly constructed estimator with that configuration -/
theorem C17_reset_fresh (pol : Cfg → Policy) (e : Est) (ops : List Op) :
    runWith pol (stepWith pol e .reset).1 ops = runWith pol (init e.cfg) ops := rfl

/-- the constructor accepts a name iff it names a criterion, an object iff no tolerance is passed beside it -/
theorem C17_ctor (thr : Rat) (bf : Nat) (s : String) (tol : Option Rat) (m : MergeFn) :
    ((∃ e, construct thr bf (some (.name s)) tol = .ok e) ↔ (Crit.ofName? s).isSome) ∧
    ((∃ e, construct thr bf (some (.obj m)) tol = .ok e) ↔ tol = none) := by
  unfold construct
  constructor
  · cases h : Crit.ofName? s <;> simp [selectMerge, h]
  · cases tol <;> simp [selectMerge]

/-! A tolerance chosen earlier survives a `set_merge` by name that passes none. -/
example : (setMerge (init { thr := 1/2, bf := 3, merge := { crit := .tolDiameter, tol := 1/5 } })
    (some (.name "tolerance-radius")) none (some (1/4)) none).1.cfg.merge.tolerance? = some (1/5) := by
  decide +kernel

/-! ## The same for the code itself

`BBGen.BitBirch_init` (the configuration part of the constructor), `BitBirch_set_merge`, `BitBirch_tolerance` are the Lean
text `tools/py2lean.py` writes from `bblean/bitbirch.py` each time the check runs.  A call returns its status and the three
attributes; merge-function objects are `objOf expf m`; `_global_merge_accept` is `None`. -/

/-- code: `set_merge` is the model's `setMerge` -/
theorem C17_code_set_merge (expf : Rat → Rat) (e : Est) (crit : Option CritArg) (tol thr : Option Rat) (bf : Option Nat) :
    BBGen.BitBirch_set_merge expf (PV.flt (some e.cfg.thr)) (PV.int e.cfg.bf) (objOf expf e.cfg.merge)
        (critPV expf crit) (optRatPV tol) (optRatPV thr) (optNatPV bf) PV.pynone
      = (match (setMerge e crit tol thr bf).2 with
         | none => PV.pynone
         | some _ => PV.err "ValueError")
        :: cfgState expf (setMerge e crit tol thr bf).1.cfg.thr (setMerge e crit tol thr bf).1.cfg.bf
             (setMerge e crit tol thr bf).1.cfg.merge := by
  rw [gen_set_merge]
  unfold setMerge
  cases selectMerge (some e.cfg.merge) crit tol <;> rfl

/-- code: the constructor is the model's `construct` -/
theorem C17_code_ctor (expf : Rat → Rat) (thr : Rat) (bf : Nat) (crit : Option CritArg) (tol : Option Rat) :
    BBGen.BitBirch_init expf (PV.flt (some thr)) (PV.int bf) (critPV expf crit) (optRatPV tol) PV.pynone
      = match construct thr bf crit tol with
        | .error _ => [PV.err "ValueError", PV.flt (some thr), PV.int bf, PV.pynone]
        | .ok e => PV.pynone :: cfgState expf e.cfg.thr e.cfg.bf e.cfg.merge := by
  rw [gen_init]
  unfold construct
  cases selectMerge none (some (crit.getD (.name "diameter"))) tol <;> rfl

/-- code: `C17_accept_iff` -/
theorem C17_code_accept_iff (expf : Rat → Rat) (e : Est) (thr : Rat) (bf : Nat) (a : CritArg) (tol : Option Rat) :
    (BBGen.BitBirch_init expf (PV.flt (some thr)) (PV.int bf) (critPV expf (some a)) (optRatPV tol) PV.pynone).head? = some PV.pynone
    ↔ (BBGen.BitBirch_set_merge expf (PV.flt (some e.cfg.thr)) (PV.int e.cfg.bf) (objOf expf e.cfg.merge)
        (critPV expf (some a)) (optRatPV tol) PV.pynone PV.pynone PV.pynone).head? = some PV.pynone := by
  have hs : BBGen.BitBirch_set_merge expf (PV.flt (some e.cfg.thr)) (PV.int e.cfg.bf) (objOf expf e.cfg.merge)
      (critPV expf (some a)) (optRatPV tol) PV.pynone PV.pynone PV.pynone = _ :=
    C17_code_set_merge expf e (some a) tol none none
  rw [C17_code_ctor, hs]
  have hm := C17_accept_iff e thr bf a tol
  cases hc : construct thr bf (some a) tol with
  | error x =>
    have : ¬ (setMerge e (some a) tol none none).2 = none := by
      rw [← hm]; rintro ⟨e', he'⟩; rw [hc] at he'; cases he'
    cases hsm : (setMerge e (some a) tol none none).2 with
    | none => exact absurd hsm this
    | some y => simp
  | ok e1 =>
    have : (setMerge e (some a) tol none none).2 = none := hm.mp ⟨e1, hc⟩
    simp [this]

/-- code: a `set_merge` that raises leaves the three attributes exactly as they were -/
theorem C17_code_atomic (expf : Rat → Rat) (e : Est) (crit : Option CritArg) (tol thr : Option Rat) (bf : Option Nat)
    (msg : String) (rest : List PV)
    (h : BBGen.BitBirch_set_merge expf (PV.flt (some e.cfg.thr)) (PV.int e.cfg.bf) (objOf expf e.cfg.merge)
        (critPV expf crit) (optRatPV tol) (optRatPV thr) (optNatPV bf) PV.pynone = PV.err msg :: rest) :
    rest = cfgState expf e.cfg.thr e.cfg.bf e.cfg.merge := by
  rw [C17_code_set_merge] at h
  cases hsm : (setMerge e crit tol thr bf).2 with
  | none => rw [hsm] at h; simp at h
  | some x =>
    have he : (setMerge e crit tol thr bf).1 = e :=
      C17_atomic e _ crit tol thr bf x (by rw [← hsm])
    rw [he] at h
    simp only [List.cons.injEq] at h
    exact h.2.symm

/-- code: the `tolerance` property reads the model's `tolerance?` -/
theorem C17_code_tolerance (expf : Rat → Rat) (a b : PV) (m : MergeFn) :
    BBGen.BitBirch_tolerance expf a b (objOf expf m) = optRatPV m.tolerance? := gen_tolerance expf a b m

/-- code: `BitBirch.reset` leaves threshold, branching factor and merge function as they were (the translation drops what it
assigns elsewhere: root, leaf chain, fitted count) -/
theorem C17_code_reset_frame (expf : Rat → Rat) (thr bf fn root : PV) (hroot : ∀ e, root ≠ PV.err e) :
    BBGen.BitBirch_reset expf thr bf fn root = [thr, bf, fn] := by
  cases root <;> first | exact absurd rfl (hroot _) | simp only [BBGen.BitBirch_reset, pv]

end BB
