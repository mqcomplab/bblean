/-
C20 — memory monitoring never disturbs a run: a reader of the peak file `max-rss.txt` gets no value or a complete number,
never an error, and the recorded peak never decreases.
Model: BBModel/Monitor.lean (inode-level file system; the writer's effects under the "temp file + atomic rename" protocol of
bblean, `.rename`, and under "truncate in place", `.truncate`; the four-step reader; `run`
executes any schedule and returns the results of the completed readers).  Invariant: BBProofs/Monitor.lean.
Built-in assumptions about the kernel: `rename(2)` is atomic; an opened inode stays readable.  The `write` of the number
is not assumed atomic.  Exercised only (C15 suite): monitoring on or off does not change any clustering output.
-/
import BBProofs.Monitor
import BBProofs.GenEq7
import BBProofs.GenEq10

namespace BB.Mon

/-- the first clause, rename protocol: in every interleaving every completed read returns no value or a complete value, one
of the samples; never an error, never a wrong number -/
theorem C20_reader (samples : List Nat) (sched : List Bool) :
    ∀ r ∈ run .rename samples sched,
      r = .done none ∨ ∃ v, r = .done (some v) ∧ v ∈ samples := by
  intro r hr
  rcases run_rename_ok samples sched r hr with h | ⟨v, h, hv⟩
  · exact Or.inl h
  · exact Or.inr ⟨v, h, (maxima_spec 0 samples).2 v hv⟩

/-- the value is one of the strict running maxima of the samples: one for which the writer performed an update -/
theorem C20_reader_maxima (samples : List Nat) (sched : List Bool) :
    ∀ r ∈ run .rename samples sched,
      r = .done none ∨ ∃ v, r = .done (some v) ∧ v ∈ maxima 0 samples :=
  run_rename_ok samples sched

/-- once a completed reader has returned a value, every reader completed later returns a value at least as large -/
theorem C20_reader_monotone (samples : List Nat) (sched : List Bool) (i j : Nat) (hij : i < j)
    (hj : j < (run .rename samples sched).length) (vi : Nat)
    (hi : (run .rename samples sched)[i]? = some (.done (some vi))) :
    ∃ vj, (run .rename samples sched)[j]? = some (.done (some vj)) ∧ vi ≤ vj := by
  have hil : i < (run .rename samples sched).length := Nat.lt_trans hij hj
  have hp := List.pairwise_iff_getElem.1 (run_rename_mono samples sched) i j hil hj hij vi
    (by rw [List.getElem?_eq_getElem hil] at hi; exact Option.some.inj hi)
  obtain ⟨vj, hvj, hle⟩ := hp
  exact ⟨vj, by rw [List.getElem?_eq_getElem hj, hvj], hle⟩

/-- the recorded peak never decreases: after every prefix of every execution `max-rss.txt` is absent or names a completely
written value, and these values never decrease -/
theorem C20_monotone (samples : List Nat) (sched : List Bool) (n : Nat) :
    (finalValue (runFS .rename samples (sched.take n)) = none ∨
      ∃ v, finalValue (runFS .rename samples (sched.take n)) = some (.full v) ∧ v ∈ samples) ∧
    ∀ m, n ≤ m → ∀ vn vm,
      finalValue (runFS .rename samples (sched.take n)) = some (.full vn) →
      finalValue (runFS .rename samples (sched.take m)) = some (.full vm) → vn ≤ vm := by
  constructor
  · obtain ⟨bn, _, _, hn, _⟩ := runFS_rename_prefix samples sched n n (Nat.le_refl _)
    rcases hn.finalValue_eq with ⟨h, _⟩ | ⟨h, hp⟩
    · exact Or.inl h
    · exact Or.inr ⟨bn, h, (maxima_spec 0 samples).2 bn hp⟩
  · intro m hnm vn vm h1 h2
    obtain ⟨bn, bm, hle, hn, hm⟩ := runFS_rename_prefix samples sched n m hnm
    rw [← hn.value_eq h1, ← hm.value_eq h2]
    exact hle

/-- once `max-rss.txt` is there it stays there -/
theorem C20_monotone_present (samples : List Nat) (sched : List Bool) (n m : Nat) (hnm : n ≤ m)
    (h : finalValue (runFS .rename samples (sched.take n)) ≠ none) :
    finalValue (runFS .rename samples (sched.take m)) ≠ none := by
  obtain ⟨bn, bm, hle, hn, hm⟩ := runFS_rename_prefix samples sched n m hnm
  rcases hn.finalValue_eq with ⟨h0, _⟩ | ⟨_, hp⟩
  · exact (h h0).elim
  · have : 0 < bn := List.rel_of_pairwise_cons (maxima_spec 0 samples).1 hp
    rcases hm.finalValue_eq with ⟨_, hb⟩ | ⟨h1, _⟩
    · omega
    · rw [h1]; simp

/-- the values the writer writes are strictly increasing -/
theorem C20_writes_increasing (samples : List Nat) : (maxima 0 samples).Pairwise (· < ·) :=
  (List.pairwise_cons.1 (maxima_spec 0 samples).1).2

/-- the truncate-in-place protocol does fail: a reader right after `open(…, "w")` reads `""` and `float("")` raises -/
theorem C20_unfixed_witness : ∃ samples sched, (.error ∈ run .truncate samples sched) :=
  ⟨[1], [true, false, false, false, false], by decide⟩

/-- and a reader that sees an incomplete prefix of the number returns a wrong value -/
theorem C20_unfixed_witness_wrong : ∃ samples sched, (.wrong ∈ run .truncate samples sched) :=
  ⟨[1], [true, true, false, false, false, false], by decide⟩

/-- The error does not need an empty directory: the second reader, during the update to 5, fails. -/
example : run .truncate [3, 5]
    [true, true, true, false, false, false, false, true, false, false, false, false]
    = [.done (some 3), .error] := by decide

/-- Rename protocol: a reader in the middle of the second update returns the value of the first. -/
example : run .rename [3, 5]
    [true, true, true, true,          -- update 3 complete
     true, true,                      -- update 5: tmp opened, partially written
     false, false, false, false,      -- a complete read
     true, true,                      -- update 5: fully written, renamed
     false, false, false, false]      -- a complete read
    = [.done (some 3), .done (some 5)] := by decide

/-- A reader that opened the file before the rename and reads after it gets the complete old value. -/
example : run .rename [3, 5]
    [true, true, true, true, false, false, true, true, true, true, false, false]
    = [.done (some 3)] := by decide

/-- Before the first rename the reader returns `None`. -/
example : run .rename [3] [true, true, true, false, true, false, false, false, false]
    = [.done none, .done (some 3)] := by decide

/-! ### the code: the daemon's loop and the reader

`BBGen.monitor_rss_process_loop` (the body of the `while True:` loop), `…_loop_init` (the initial maximum) and
`BBGen.get_peak_memory_gib` are the Lean text `tools/py2lean.py` writes from `bblean/_memory.py` each time the check runs.
File operations are tokens (`decodeEff` reads them back as writer effects); `total_rss()`, the clock, `file.exists()` and
the text read are inputs. -/

open BB in
/-- the writer of the code is the model's writer: the generated loop body, iterated over any non-negative float samples `ss`,
does on the two peak-file names exactly `writerOps .rename` (of the samples' ranks: the model's values are naturals) -/
theorem C20_code_writer (expf : Rat → Rat) (st iv bg : PV) (parent : String)
    (its : List (PV × PV)) (ss : List Rat)
    (hs : List.Forall₂ (fun it s => PV.mul it.1 bg = PV.flt (some s)) its ss) (hpos : ∀ s ∈ ss, 0 ≤ s) :
    decodeEff (keyOf (rank (0 :: ss))) parent
        (monitorRun expf st iv bg (PV.str parent) (BBGen.monitor_rss_process_loop_init.headD PV.pynone) its)
      = writerOps .rename (ss.map (rank (0 :: ss))) :=
  gen_monitor_writer expf st iv bg parent its ss hs hpos

open BB in
/-- `C20_reader` for the file effects of the generated loop -/
theorem C20_code_reader (expf : Rat → Rat) (st iv bg : PV) (parent : String)
    (its : List (PV × PV)) (ss : List Rat)
    (hs : List.Forall₂ (fun it s => PV.mul it.1 bg = PV.flt (some s)) its ss) (hpos : ∀ s ∈ ss, 0 ≤ s)
    (sched : List Bool) :
    ∀ r ∈ (({ ops := decodeEff (keyOf (rank (0 :: ss))) parent
                (monitorRun expf st iv bg (PV.str parent) (BBGen.monitor_rss_process_loop_init.headD PV.pynone) its) } : St).exec
              sched).out,
      r = .done none ∨ ∃ v, r = .done (some v) ∧ v ∈ ss.map (rank (0 :: ss)) := by
  rw [C20_code_writer expf st iv bg parent its ss hs hpos]
  exact C20_reader (ss.map (rank (0 :: ss))) sched

open BB in
/-- an iteration whose sample does not exceed the running maximum (or is NaN) touches neither peak-file name -/
theorem C20_code_keep (expf : Rat → Rat) (m : Rat) (s : Option Rat) (st iv bg clk raw : PV) (parent : String) (k : PV → Nat)
    (hs : PV.mul raw bg = PV.flt s) (h : ∀ x, s = some x → x ≤ m) :
    decodeEff k parent
      (BBGen.monitor_rss_process_loop expf (PV.flt (some m)) st iv bg (PV.str parent) clk raw).dropLast = [] := by
  rw [gen_monitor_loop_keep expf m s st iv bg clk raw parent hs h, List.dropLast_concat]
  simpa [decodeEff] using decode_csv k parent (PV.flt s) (PV.sub clk st) []

open BB in
/-- two lists of equations to compare; nothing in the statement links them.  The translated `get_peak_memory_gib`: no file
gives `None`; a file is opened, read once, closed, and the result is `float(text.strip())`; `float("")` raises.  The
model's `rstep`: `.start ↦ .done none` without a file, `.start ↦ .sawExists ↦ .opened` with one, an empty read `↦ .error` -/
theorem C20_code_reader_steps (expf : Rat → Rat) (dir : String) (content : PV) :
    BBGen.get_peak_memory_gib expf (PV.str dir) content (PV.bool false) = [PV.pynone] ∧
    BBGen.get_peak_memory_gib expf (PV.str dir) content (PV.bool true)
      = [PV.str "open", PV.str (dir ++ "/" ++ "max-rss.txt"), PV.str "r",
         PV.str "read", PV.str (dir ++ "/" ++ "max-rss.txt"),
         PV.str "close", PV.str (dir ++ "/" ++ "max-rss.txt"),
         PV.floatOf (PV.strStrip content)] ∧
    PV.floatOf (PV.strStrip (PV.str "")) = PV.err "ValueError" ∧
    (∀ fs : FS, fs.final = none → rstep fs .start = .done none) ∧
    (∀ (fs : FS) i, fs.final = some i → rstep fs .start = .sawExists ∧ rstep fs .sawExists = .opened i) ∧
    rstep {} (.read .empty) = .error :=
  ⟨gen_reader_absent expf dir content, gen_reader_present expf dir content, floatOf_empty,
   fun fs h => by simp [rstep, h], fun fs i h => by simp [rstep, h], rfl⟩

open BB in
/-- samples 3.0, 2.0, 5.0: two updates, nothing for the sample below the maximum -/
example : decodeEff (keyOf (rank [0, 3, 2, 5])) "d"
    (monitorRun (fun x => x) (PV.flt (some 0)) (PV.flt (some 1)) (PV.flt (some 1)) (PV.str "d")
      (BBGen.monitor_rss_process_loop_init.headD PV.pynone)
      [(PV.flt (some 3), PV.flt (some 1)), (PV.flt (some 2), PV.flt (some 2)), (PV.flt (some 5), PV.flt (some 3))])
    = [.openTmp, .writePartial, .writeFull 2, .renameTmp, .openTmp, .writePartial, .writeFull 3, .renameTmp] := by
  decide +kernel

end BB.Mon
