/-
C11 — iSIM statistics are exact: `jt_isim_from_sum` on column sums `ks` of `n` fingerprints against the exact rational
`exactIsim ks n = Σ C(k,2) / Σ [C(k,2) + k(n-k)]`; two fingerprints; order of rows and columns; complementary similarity.
Model: `isimFromSum` (the NumPy code with its uint64 wrap-around and float64 rounding points; `none` is NaN), `isimRows`,
`diameterFromSum`, `radiusFromSum`, `radiusCompl`, `complIsim` (BBModel/Similarity.lean).
"Equals the exact rational" is float equality with the rounded rational below `n·Σk < 2^52` (`C11_exact`) and a relative
error of `18·2^-53` up to 2^64 (`C11_ulp`); equality and `v ≤ 1` are false above 2^52 (`C11_gt_one`).
By definition of the model only: the wrappers are the from-sum forms (`C11_wrappers`); packed and unpacked input are the
same rows.  Only the NumPy implementation is modelled (C13 relates the compiled kernels to it).
-/
import BBProofs.Isim
import BBProofs.IsimErr
import BBProofs.Fl
import BBProofs.GenEq3

namespace BB

/-- NaN exactly for fewer than two objects -/
theorem C11_defined (ks : List Nat) (n : Nat) : (isimFromSum ks n = none ↔ n < 2) :=
  isimFromSum_eq_none_iff ks n

/-- the clause "1 when every fingerprint is empty" -/
theorem C11_empty (ks : List Nat) (n : Nat) (h : 2 ≤ n) (h0 : ks.sum = 0) : isimFromSum ks n = some 1 :=
  isim_of_sum_zero ks n h (by rw [h0]; rfl)

/-- below 2^64 no uint64 intermediate wraps: the float formula is evaluated on the true integers -/
theorem C11_no_wrap (ks : List Nat) (n : Nat) (hn : 2 ≤ n) (hk : ∀ k ∈ ks, k ≤ n) (hS : 0 < ks.sum)
    (hb : n * ks.sum < 2 ^ 64) :
    isimFromSum ks n = some (fdiv (ofNat (sqSum ks - ks.sum) / 2)
      (fsub (fadd (ofNat (sqSum ks - ks.sum) / 2) (ofNat (n * ks.sum))) (ofNat (sqSum ks)))) :=
  isim_of_no_wrap ks n hn hk hS hb

/-- the first clause where it holds as float equality: the correctly rounded exact rational, for `n·Σk < 2^52` -/
theorem C11_exact (ks : List Nat) (n : Nat) (hn : 2 ≤ n) (hk : ∀ k ∈ ks, k ≤ n) (hS : 0 < ks.sum)
    (hb : n * ks.sum < 2 ^ 52) : isimFromSum ks n = some (rnd (exactIsim ks n)) :=
  isim_exact rnd_isRounding ks n hn hk hS hb

/-- the denominator of the definition is positive whenever some bit is set -/
theorem C11_den_pos (ks : List Nat) (n : Nat) (hn : 2 ≤ n) (hk : ∀ k ∈ ks, k ≤ n) (hS : 0 < ks.sum) :
    0 < (ks.map (fun k => k * (k - 1) / 2 + k * (n - k))).sum := isim_den_pos ks n hn hk hS

/-- for `n·Σk < 2^52` the value lies in [0, 1] -/
theorem C11_range (ks : List Nat) (n : Nat) (hn : 2 ≤ n) (hk : ∀ k ∈ ks, k ≤ n) (hS : 0 < ks.sum)
    (hb : n * ks.sum < 2 ^ 52) : ∃ v, isimFromSum ks n = some v ∧ 0 ≤ v ∧ v ≤ 1 :=
  ⟨_, C11_exact ks n hn hk hS hb, rnd_nonneg (exactIsim_nonneg ks n),
    rnd_le_one (exactIsim_le_one ks n)⟩

/-- the first clause on the whole no-wrap range: within 18 units of `2^-53` (relative) of the exact rational -/
theorem C11_ulp (ks : List Nat) (n : Nat) (hn : 2 ≤ n) (hk : ∀ k ∈ ks, k ≤ n) (hS : 0 < ks.sum)
    (hb : n * ks.sum < 2 ^ 64) :
    ∃ v, isimFromSum ks n = some v ∧
      |v - exactIsim ks n| ≤ 18 * 2 ^ (-53 : ℤ) * exactIsim ks n ∧ 0 ≤ v :=
  isim_ulp ks n hn hk hS hb

/-- `C11_ulp` on the range `n·Σk < 2^63` the property states -/
theorem C11_ulp_63 (ks : List Nat) (n : Nat) (hn : 2 ≤ n) (hk : ∀ k ∈ ks, k ≤ n) (hS : 0 < ks.sum)
    (hb : n * ks.sum < 2 ^ 63) :
    ∃ v, isimFromSum ks n = some v ∧
      |v - exactIsim ks n| ≤ 18 * 2 ^ (-53 : ℤ) * exactIsim ks n ∧ 0 ≤ v :=
  isim_ulp ks n hn hk hS (by omega)

/-- exact value 0 (no column with two set bits): the float value is 0 -/
theorem C11_ulp_zero (ks : List Nat) (n : Nat) (hn : 2 ≤ n) (hk : ∀ k ∈ ks, k ≤ n) (hS : 0 < ks.sum)
    (hb : n * ks.sum < 2 ^ 64) (h0 : exactIsim ks n = 0) : isimFromSum ks n = some 0 := by
  obtain ⟨v, hv, herr, _⟩ := isim_ulp ks n hn hk hS hb
  rw [h0, mul_zero, sub_zero] at herr
  rw [hv, abs_eq_zero.mp (le_antisymm herr (abs_nonneg v))]

/-- the value lies in `[0, 1 + 18·2^-53]` on the whole no-wrap range -/
theorem C11_range_wide (ks : List Nat) (n : Nat) (hn : 2 ≤ n) (hk : ∀ k ∈ ks, k ≤ n) (hS : 0 < ks.sum)
    (hb : n * ks.sum < 2 ^ 64) :
    ∃ v, isimFromSum ks n = some v ∧ 0 ≤ v ∧ v ≤ 1 + 18 * 2 ^ (-53 : ℤ) := by
  obtain ⟨v, hv, herr, h0⟩ := isim_ulp ks n hn hk hS hb
  have h1 := exactIsim_le_one ks n
  exact ⟨v, hv, h0, (sub_le_iff_le_add'.1 (abs_le.mp herr).2).trans
    (add_le_add h1 (mul_le_of_le_one_right (by positivity) h1))⟩

/-- `v ≤ 1` fails above 2^52: `k = n = 77490642` in one column (identical fingerprints, `n² < 2^53`) has exact iSIM 1 and a
float value above 1 -/
theorem C11_gt_one :
    exactIsim [77490642] 77490642 = 1 ∧
    ∃ v, isimFromSum [77490642] 77490642 = some v ∧ 1 < v ∧ 77490642 * [77490642].sum < 2 ^ 53 :=
  ⟨isim_gt_one_witness.1, _, isim_gt_one_witness.2, by norm_num, by decide⟩

/-- for two fingerprints, not both empty, iSIM is their Tanimoto similarity -/
theorem C11_pair (a b : Row) (hl : a.length = b.length) (hu : 0 < popc a + popc b)
    (hb : 2 * (popc a + popc b) < 2 ^ 52) : isimRows [a, b] = some (jtBits a b) :=
  isim_pair rnd_isRounding a b hl hu hb

/-- invariance under the order of columns, wrap-around included -/
theorem C11_perm_cols (ks ks' : List Nat) (n : Nat) (h : ks.Perm ks') : isimFromSum ks n = isimFromSum ks' n :=
  isimFromSum_congr n h.sum_nat (h.map (fun k => k * k)).sum_nat

/-- invariance under the order of rows -/
theorem C11_perm_rows (rows rows' : List Row) (h : rows.Perm rows') : isimRows rows = isimRows rows' :=
  isimRows_perm h

/-- by definition of the model: the from-fingerprints, diameter and radius forms are the from-sum forms on the column sums -/
theorem C11_wrappers (rows : List Row) :
    isimRows rows = isimFromSum (colSum rows) rows.length ∧
    diameterFromSum (colSum rows) rows.length = (isimFromSum (colSum rows) rows.length).map (fun j => fsub 1 j) ∧
    radiusFromSum (colSum rows) rows.length = (radiusCompl (colSum rows) rows.length).map (fun j => fsub 1 j) :=
  ⟨rfl, rfl, rfl⟩

/-- each complementary similarity is the iSIM of the set with that row removed (three or more rows) -/
theorem C11_compl (rows : List Row) (F : Nat) (hF : ∀ r ∈ rows, r.length = F) (h3 : 3 ≤ rows.length)
    (i : Nat) (hi : i < rows.length) :
    (complIsim rows)[i]? = some (isimFromSum (colSum (rows.eraseIdx i)) (rows.length - 1)) := by
  unfold complIsim
  have hlt : ¬ rows.length - 1 < 2 := by omega
  simp only [hlt, if_false, List.getElem?_map, List.getElem?_eq_getElem hi, Option.map_some]
  rw [subLs_colSum rows F hF i hi (by omega)]

/-! `C11_exact` and `C11_ulp` apply to the column sums of three fingerprints over four bits. -/
example : isimFromSum [3, 2, 0, 1] 3 = some (rnd (exactIsim [3, 2, 0, 1] 3)) :=
  C11_exact [3, 2, 0, 1] 3 (by decide) (by decide) (by decide) (by decide)

example : ∃ v, isimFromSum [3, 2, 0, 1] 3 = some v ∧
    |v - exactIsim [3, 2, 0, 1] 3| ≤ 18 * 2 ^ (-53 : ℤ) * exactIsim [3, 2, 0, 1] 3 ∧ 0 ≤ v :=
  C11_ulp [3, 2, 0, 1] 3 (by decide) (by decide) (by decide) (by decide)

/-! ## The same for the code itself

`BBGen.*` is the Lean text `tools/py2lean.py` writes from the Python source each time the check runs; `PV` is the value
algebra of `BBModel/PyNum.lean`; `SumOk s`: a summary the tree can hold (`C11_code_side_conditions`). -/

open PV in
/-- `C11_exact` for the translated `jt_isim_from_sum` -/
theorem C11_code_isim (expf : Rat → Rat) (w : W) (ks : List Nat) (n : Nat) (hn : 2 ≤ n)
    (hk : ∀ k ∈ ks, k ≤ n) (hS : 0 < ks.sum) (hb : n * ks.sum < 2 ^ 52) :
    BBGen.jt_isim_from_sum expf (PV.arr w ks) (PV.int n) = PV.flt (some (rnd (exactIsim ks n))) := by
  have hn52 : n < 2 ^ 52 := by
    have : n * 1 ≤ n * ks.sum := Nat.mul_le_mul_left n hS
    omega
  rw [gen_isim' expf w ks n (fun k h => by have := hk k h; omega) (by omega)
    (fun _ _ => isimDen_ne_zero ks n hn hk hS hb)]
  have h1 := (isim_no_wrap ks n hk (by omega)).1
  rw [isimPV_of_pos hn (by rw [h1]; omega), C11_exact ks n hn hk hS hb]

open PV in
/-- `C11_empty`: the translated function returns the Python int `1` -/
theorem C11_code_empty (expf : Rat → Rat) (w : W) (ks : List Nat) (n : Nat) (hn : 2 ≤ n) (hn' : n < 2 ^ 64)
    (h0 : ∀ k ∈ ks, k = 0) :
    BBGen.jt_isim_from_sum expf (PV.arr w ks) (PV.int n) = PV.int 1 := by
  have hs : ks.sum = 0 := List.sum_eq_zero h0
  rw [gen_isim' expf w ks n (fun k h => by rw [h0 k h]; norm_num) hn'
    (fun _ h => absurd (by rw [hs]; rfl) h)]
  exact isimPV_of_sum_zero hn (by rw [hs]; rfl)

open PV in
/-- for fewer than two objects the translated function returns NaN -/
theorem C11_code_nan (expf : Rat → Rat) (w : W) (ks : List Nat) (n : Nat) (hn : n < 2)
    (hls : ∀ k ∈ ks, k < 2 ^ 64) :
    BBGen.jt_isim_from_sum expf (PV.arr w ks) (PV.int n) = PV.flt none := by
  rw [gen_isim' expf w ks n hls (by omega) (fun h => by omega), isimPV_of_lt hn]

open PV in
/-- the translated `jt_isim_radius_compl_from_sum` returns the model's `radiusCompl` -/
theorem C11_code_radius_compl (expf : Rat → Rat) (w : W) (s : Summary) (h : SumOk s) :
    BBGen.jt_isim_radius_compl_from_sum expf (PV.arr w s.ls) (PV.int s.n) = PV.flt (radiusCompl s.ls s.n) :=
  gen_radius_ok expf w s h

open PV in
/-- the translated `jt_isim_diameter_from_sum` returns the model's `diameterFromSum` (the int `0` on empty fingerprints reads as
that float) -/
theorem C11_code_diameter (expf : Rat → Rat) (w : W) (s : Summary) (h : SumOk s) :
    PV.toFlt (BBGen.jt_isim_diameter_from_sum expf (PV.arr w s.ls) (PV.int s.n)) = some (diameterFromSum s.ls s.n) := by
  unfold BBGen.jt_isim_diameter_from_sum
  rw [gen_isim_ok expf w s h]
  rcases isimPV_val s.ls s.n with hv | ⟨hv, hj⟩
  · rw [hv, sub_int_flt]
    cases hx : isimFromSum s.ls s.n <;> simp [diameterFromSum, hx, pv, rnd_one]
  · rw [hv]
    simp [diameterFromSum, hj, fsub, pv]

open PV in
/-- the translated `jt_isim_radius_from_sum` returns the model's `radiusFromSum` -/
theorem C11_code_radius (expf : Rat → Rat) (w : W) (s : Summary) (h : SumOk s) :
    BBGen.jt_isim_radius_from_sum expf (PV.arr w s.ls) (PV.int s.n) = PV.flt (radiusFromSum s.ls s.n) := by
  unfold BBGen.jt_isim_radius_from_sum
  rw [gen_radius_ok expf w s h, sub_int_flt]
  cases hx : radiusCompl s.ls s.n <;> simp [radiusFromSum, hx, pv, rnd_one]

/-- `C11_ulp` for the translated `jt_isim_from_sum` -/
theorem C11_code_ulp (expf : Rat → Rat) (w : W) (ks : List Nat) (n : Nat) (hn : 2 ≤ n) (hk : ∀ k ∈ ks, k ≤ n)
    (hS : 0 < ks.sum) (hb : n * ks.sum < 2 ^ 64) :
    ∃ v, BBGen.jt_isim_from_sum expf (PV.arr w ks) (PV.int n) = PV.flt (some v) ∧
      |v - exactIsim ks n| ≤ 18 * 2 ^ (-53 : ℤ) * exactIsim ks n ∧ 0 ≤ v :=
  gen_isim_ulp expf w ks n hn hk hS hb

/-- sums bounded by the count, count below 2^53 − 1 and no uint64 wrap-around give `SumOk` -/
theorem C11_code_side_conditions (s : Summary) (hk : ∀ k ∈ s.ls, k ≤ s.n) (hn : s.n + 1 < 2 ^ 53)
    (hb : (s.n + 1) * (s.ls.sum + s.ls.length) < 2 ^ 64) : SumOk s :=
  sumOk_of_consistent s hk hn hb

end BB
