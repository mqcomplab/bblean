/-
C05 — a successful multi-round run (`multiround … = .ok fs`, BBModel/Multiround.lean) ends with a cluster file
whose member lists contain every global index `0 .. N-1` exactly once (rows numbered in input-file order) and a
centroid list aligned with it that holds the majority-vote centroid of each cluster's members: for every
refinement mode, number of midsection rounds, bin size, schedule and initial directory `fs0`.  Rounds
communicate only through files found again by two sorted listings (`prevPairs`); `C05_pairing` is why these pair
each buffer file with its own index file.  Successful runs exist: `C15_total_multi`.  Not covered: `.npy` and
pickle encodings (file contents are model values), `max_fps` / `max_files`, `save_tree`.  The refinement step is
modelled as repaired (fix db0ab39: it had unpacked the rows a second time).
-/
import BBProofs.Multiround
import BBProofs.RefPolicy
import BBProofs.GenEq6
import BBProofs.GenEq12

namespace BB.MR
open BB

/-- `str(i).zfill(z)` has `z` characters when `i` has at most `z` digits -/
theorem C05_zfill_length (z i : Nat) (hz : 0 < z) (h : i < 10 ^ z) : (zfill z i).length = z :=
  zfill_length z i hz h

/-- lexicographic order of zero-filled labels is the numeric order -/
theorem C05_zfill_lt (i j z : Nat) (h : i < j) (hj : j < 10 ^ z) : zfill z i < zfill z j :=
  zfill_lt i j z h hj

/-- the labels of two different tasks differ -/
theorem C05_zfill_inj (z i j : Nat) (h : zfill z i = zfill z j) : i = j := zfill_inj h

/-- the labels of the tasks of a round: as many digits as the number of tasks has -/
theorem C05_label_length (n i : Nat) (h : i < n) : (zfill (toString n).length i).length = (toString n).length :=
  zfill_length _ i (repr_length_pos n) (lt_trans h (lt_pow_repr_length n))

/-- **pairing**: for (label, dtype) pairs whose labels have the same length, sorting the rendered
buffer names and sorting the rendered index names enumerate the pairs in the same order -/
theorem C05_pairing (r : Nat) (ps : List (String × W)) (hlen : ∀ p ∈ ps, ∀ q ∈ ps, p.1.length = q.1.length) :
    ∃ qs : List (String × W), qs.Perm ps ∧
      (ps.map (fun p => bufName r p.1 p.2)).mergeSort (· ≤ ·) = qs.map (fun p => bufName r p.1 p.2) ∧
      (ps.map (fun p => idxName r p.1 p.2)).mergeSort (· ≤ ·) = qs.map (fun p => idxName r p.1 p.2) :=
  mergeSort_alike _ _ ps fun p hp q hq => bufName_le_iff_idxName_le r p.1 q.1 p.2 q.2 (hlen p hp q hq)

/-- hence zipping the two sorted listings pairs `bufName r L w` with `idxName r L w` -/
theorem C05_pairing_zip (r : Nat) (ps : List (String × W)) (hlen : ∀ p ∈ ps, ∀ q ∈ ps, p.1.length = q.1.length) :
    ∀ x ∈ ((ps.map (fun p => bufName r p.1 p.2)).mergeSort (· ≤ ·)).zip
            ((ps.map (fun p => idxName r p.1 p.2)).mergeSort (· ≤ ·)),
      ∃ p ∈ ps, x = (bufName r p.1 p.2, idxName r p.1 p.2) := by
  obtain ⟨qs, hp, h1, h2⟩ := C05_pairing r ps hlen
  rw [h1, h2, List.zip_map']
  intro x hx
  obtain ⟨p, hpq, rfl⟩ := List.mem_map.mp hx
  exact ⟨p, hp.mem_iff.mp hpq, rfl⟩

/-- when exactly the groups `es` saved by round `r` are there as round-`r` files (`DirInv`), the file pairs the
next round lists are those groups, every buffer file with its own index file -/
theorem C05_prevPairs (r : Nat) (fs : FS) (es : List Entry) (h : DirInv r fs es) :
    ∃ qs : List Entry, qs.Perm es ∧
      prevPairs fs (r + 1) = qs.map (fun e => (bufName r e.L e.w, idxName r e.L e.w)) :=
  prevPairs_of_dirInv h

variable (pol : BB.Cfg → Policy) (hpol : ∀ cfg, (pol cfg).Valid)
include hpol

/-- **C05 (partition)**: the final clusters partition the global index space `0 .. N-1` -/
theorem C05_partition (c : Cfg) (hbf : 2 ≤ c.bf) (files : List (List Row)) (sched : Nat → List Nat → List Nat)
    (fs0 fs : FS) (h : multiround pol c files sched fs0 = .ok fs) :
    ∃ cl : List (List Nat), fs.read "clusters.pkl" = some (.clusters cl) ∧
      cl.flatten.Perm (List.range (files.map List.length).sum) := by
  obtain ⟨cl, h1, _, h3, _⟩ := multiround_result hpol (qok_true (dataOf files)) c (by omega) sched fs0 fs h
  refine ⟨cl.map (·.ids), h1, ?_⟩
  apply Multiset.coe_eq_coe.mp
  rw [← idsOf_eq_flatten, h3]

/-- **C05 (centroids)**: the saved centroid list is aligned with the cluster list, and each centroid is the one
the fingerprints of the cluster's members determine (`dataOf files i` is row `i` of the concatenated files) -/
theorem C05_centroids (c : Cfg) (hbf : 2 ≤ c.bf) (files : List (List Row)) (sched : Nat → List Nat → List Nat)
    (fs0 fs : FS) (h : multiround pol c files sched fs0 = .ok fs) (hc : c.saveCentroids = true) :
    ∃ cl : List (List Nat), fs.read "clusters.pkl" = some (.clusters cl) ∧
      fs.read "cluster-centroids-packed.pkl" = some (.centroids
        (cl.map (fun ids => centroidFromSum (colSum (ids.map (dataOf files))) ids.length))) := by
  obtain ⟨cl, h1, h2, _, h4⟩ := multiround_result hpol (qok_exact (dataOf files)) c (by omega) sched fs0 fs h
  refine ⟨cl.map (·.ids), h1, ?_⟩
  rw [h2 hc, List.map_map]
  congr 2
  apply List.map_congr_left
  intro u hu
  exact (h4 u hu).cent_members

/-- all of it at once: the sub-clusters behind both final files are exact for their members -/
theorem C05_exact (c : Cfg) (hbf : 2 ≤ c.bf) (files : List (List Row)) (sched : Nat → List Nat → List Nat)
    (fs0 fs : FS) (h : multiround pol c files sched fs0 = .ok fs) :
    ∃ cl : List Clu, fs.read "clusters.pkl" = some (.clusters (cl.map (·.ids))) ∧
      (c.saveCentroids = true → fs.read "cluster-centroids-packed.pkl" = some (.centroids (cl.map (·.cent)))) ∧
      (cl.map (·.ids)).flatten.Perm (List.range (files.map List.length).sum) ∧
      ∀ u ∈ cl, Exact (dataOf files) u := by
  obtain ⟨cl, h1, h2, h3, h4⟩ := multiround_result hpol (qok_exact (dataOf files)) c (by omega) sched fs0 fs h
  refine ⟨cl, h1, h2, ?_, h4⟩
  apply Multiset.coe_eq_coe.mp
  rw [← idsOf_eq_flatten, h3]

/-- **C05 (round invariant)**, initial round: after round 1 the directory holds exactly the groups the tasks
saved (`DirInv`); these are exact for their members and their labels are `0 .. N-1` (`EsOK`) -/
theorem C05_round1 (c : Cfg) (hbf : 2 ≤ c.bf) (files : List (List Row)) (fs fs' : FS) (hwf : fs.WF)
    (hno : NoRoundFrom 1 fs) (h : execRound fs (initTasks pol c files) = .ok fs') :
    ∃ es, DirInv 1 fs' es ∧ EsOK (Exact (dataOf files)) (files.map List.length).sum es :=
  let ⟨es, h⟩ := round1_step hpol (qok_exact (dataOf files)) c (by omega) hwf hno h
  ⟨es, h.dir, h.esok⟩

/-- **C05 (round invariant)**, midsection rounds: a successful round `r + 1` hands on the invariant of round `r` -/
theorem C05_round_step (c : Cfg) (hbf : 2 ≤ c.bf) (files : List (List Row)) (N r : Nat) (fs fs' : FS)
    (es : List Entry) (hdir : DirInv r fs es) (hes : EsOK (Exact (dataOf files)) N es)
    (h : execRound fs (midTasks pol c files.flatten (r + 1) fs) = .ok fs') :
    ∃ es', DirInv (r + 1) fs' es' ∧ EsOK (Exact (dataOf files)) N es' :=
  let ⟨es', h⟩ := mid_step hpol (qok_exact (dataOf files)) c (by omega) (labelsFrom_dataOf files) hdir hes h
  ⟨es', h.dir, h.esok⟩

/-- **C05 (handover)**: without `cleanup`, the files of the last intermediate round `1 + nMidRounds` are still
there after the run: each buffer file lists the summaries `(linear_sum, n)` of sub-clusters whose member lists
the index file of the same label and dtype lists in the same order; the summaries are exact for their members,
the member lists partition `0 .. N-1`, and no other buffer file of that round is there -/
theorem C05_handover (c : Cfg) (hbf : 2 ≤ c.bf) (files : List (List Row)) (sched : Nat → List Nat → List Nat)
    (fs0 fs : FS) (h : multiround pol c files sched fs0 = .ok fs) (hc : c.cleanup = false) :
    ∃ es : List Entry,
      (∀ e ∈ es,
        fs.read (bufName (1 + c.nMidRounds) e.L e.w) = some (.bufs e.w (e.cs.map (fun u => (u.ls, u.n)))) ∧
        fs.read (idxName (1 + c.nMidRounds) e.L e.w) = some (.idxs (e.cs.map (·.ids))) ∧
        ∀ u ∈ e.cs, Exact (dataOf files) u ∧ u.w = e.w) ∧
      (es.flatMap (fun e => e.cs.map (·.ids))).flatten.Perm (List.range (files.map List.length).sum) ∧
      (∀ n, fs.read n ≠ none → matchB (1 + c.nMidRounds) n = true →
        ∃ e ∈ es, n = bufName (1 + c.nMidRounds) e.L e.w) := by
  obtain ⟨fs2, es, hdir, hes, hrd⟩ := multiround_handover hpol (qok_exact (dataOf files)) c (by omega)
    sched fs0 fs h
  -- the last intermediate round is round `nMidRounds + 1`, written `1 + nMidRounds` in the statement
  rw [Nat.add_comm c.nMidRounds 1] at hdir
  refine ⟨es, ?_, ?_, ?_⟩
  · intro e he
    refine ⟨?_, ?_, fun u hu => ⟨hes.q e he u hu, hes.keyed e he u hu⟩⟩
    · rw [hrd hc (bufName _ e.L e.w) (isRoundFile_roundName .buf _ _ _)]; exact hdir.rdB e he
    · rw [hrd hc (idxName _ e.L e.w) (isRoundFile_roundName .idx _ _ _)]; exact hdir.rdI e he
  · apply Multiset.coe_eq_coe.mp
    rw [← hes.ids, idsOf_eq_flatten, List.map_flatMap]
  · intro n hn hm
    rw [hrd hc n (isRoundFile_of_matchK (k := .buf) hm)] at hn
    exact hdir.onlyB n hn hm

omit hpol in
/-- the centroid of `C05_centroids` is the per-bit majority vote of the members (ties set) -/
theorem C05_centroid_is_majority (D : Nat → Row) (ids : List Nat) (h2 : 2 ≤ ids.length) (i : Nat) :
    (centroidFromSum (colSum (ids.map D)) ids.length).getD i false =
      decide (ids.length ≤ 2 * ((ids.map D).filter (fun r => r.getD i false)).length) := by
  have := centroid_majority' (ids.map D) (by simpa using h2) i
  simpa using this

omit hpol in
/-- the global indices are the positions in the concatenation of the input files -/
theorem C05_dataOf (files : List (List Row)) (i : Nat) (hi : i < files.flatten.length) :
    dataOf files i = files.flatten[i] :=
  dataOf_eq_getElem files hi

end BB.MR

namespace BB.MR
open BB

/-- `C05_partition` for the reference policy `refPolicy X`, the code's own merge decisions -/
theorem C05_partition_ref (X : ExpTab) (c : Cfg) (hbf : 2 ≤ c.bf) (files : List (List Row))
    (sched : Nat → List Nat → List Nat) (fs0 fs : FS)
    (h : multiround (refPolicy X) c files sched fs0 = .ok fs) :
    ∃ cl : List (List Nat), fs.read "clusters.pkl" = some (.clusters cl) ∧
      cl.flatten.Perm (List.range (files.map List.length).sum) :=
  C05_partition (refPolicy X) (refPolicy_valid X) c hbf files sched fs0 fs h

/-- `C05_centroids` for the reference policy -/
theorem C05_centroids_ref (X : ExpTab) (c : Cfg) (hbf : 2 ≤ c.bf) (files : List (List Row))
    (sched : Nat → List Nat → List Nat) (fs0 fs : FS)
    (h : multiround (refPolicy X) c files sched fs0 = .ok fs) (hc : c.saveCentroids = true) :
    ∃ cl : List (List Nat), fs.read "clusters.pkl" = some (.clusters cl) ∧
      fs.read "cluster-centroids-packed.pkl" = some (.centroids
        (cl.map (fun ids => centroidFromSum (colSum (ids.map (dataOf files))) ids.length))) :=
  C05_centroids (refPolicy X) (refPolicy_valid X) c hbf files sched fs0 fs h hc

/-! the side condition on the branching factor holds for `exampleCfg` -/
example : 2 ≤ exampleCfg.bf := by decide

/-! the hypothesis of `C05_pairing` holds for the labels of a three-task round -/
example : ∀ p ∈ [(zfill 1 0, W.u8), (zfill 1 1, W.u16), (zfill 1 2, W.u8)],
    ∀ q ∈ [(zfill 1 0, W.u8), (zfill 1 1, W.u16), (zfill 1 2, W.u8)], p.1.length = q.1.length := by
  have h : ∀ i, i < 3 → (zfill 1 i).length = 1 := fun i hi => zfill_length 1 i (by omega) (by omega)
  intro p hp q hq
  simp only [List.mem_cons, List.not_mem_nil, or_false] at hp hq
  rcases hp with rfl | rfl | rfl <;> rcases hq with rfl | rfl | rfl <;> simp [h]

/-! The code: `BBGen.*` is the Lean text the translator writes from the Python source each time the check runs. -/

/-- code: `_BFSubcluster.__init__` on a saved buffer (what every tree-merging round does with the files of the
previous round) raises `ValueError` exactly when the member list has not as many entries as the count stored in
the buffer; otherwise the object is the model's `Clu.ofBuffer` -/
theorem C05_code_reimport (expf : Rat → Rat) (w : W) (ls : List Nat) (n : Nat) (ids : List Nat) (wi : W) (nf : PV)
    (hk : ∀ k ∈ ls, k ≤ n) (hn : n < 2 ^ 53) :
    BBGen._BFSubcluster_init expf BB.PV.pynone (BB.PV.arr wi ids) nf (BB.PV.arr w (ls ++ [n])) (BB.PV.bool true)
      = if ids.length ≠ n
        then [BB.PV.err "ValueError", BB.PV.pynone, BB.PV.pynone, BB.PV.pynone, BB.PV.pynone]
        else BB.PV.pynone :: BB.stateOf (BB.Clu.ofBuffer w ls n ids) BB.PV.pynone := by
  rw [BB.gen_subcluster_init_buffer expf w ls n ids wi nf true hk hn]
  simp

/-- code: `_get_files_range_tuples` returns label, file, start and end of each file as the model's `fileTuples`
lists them -/
theorem C05_code_file_ranges (expf : Rat → Rat) (files : List (List Row)) (hs : List Nat) (hlen : hs.length = files.length) :
    BBGen._get_files_range_tuples expf (PV.arr .big hs) (PV.arr .big (files.map List.length))
      = ((fileTuples files).zip hs).flatMap
          (fun t => [PV.str t.1.1, PV.int t.2, PV.int t.1.2.2, PV.int ((t.1.2.2 + t.1.2.1.length : Nat) : Int)]) :=
  gen_file_tuples_model expf files hs hlen

end BB.MR
