/-
C06 — the result of the multi-round workflow (`multiround`, BBModel/Multiround.lean) does not depend on the
order `sched` in which the tasks of a round complete.  The tasks of a round read the directory as it was at the
start of the round and write files named by their own label, so their write sets are pairwise disjoint; writes
to different names commute; hence a round, and by induction the run, leaves the same directory behind.
"The same outcome" is `toOption` equality: both runs fail, or both succeed with the same directory (an
association list; `fs0` is arbitrary).  Not modelled, only exercised: OS scheduling, process start methods,
pickling of task objects.
-/
import BBProofs.Multiround
import BBProofs.RefPolicy
import BBProofs.GenEq12

namespace BB.MR
open BB

/-- buffer-file names and index-file names determine round, label and dtype, for arbitrary labels -/
theorem C06_names_inj (r r' : Nat) (L L' : String) (w w' : W) :
    (bufName r L w = bufName r' L' w' → r = r' ∧ L = L' ∧ w = w') ∧
    (idxName r L w = idxName r' L' w' → r = r' ∧ L = L' ∧ w = w') ∧
    bufName r L w ≠ idxName r' L' w' :=
  ⟨fun h => (roundName_inj (k := .buf) (k' := .buf) h).2, fun h => (roundName_inj (k := .idx) (k' := .idx) h).2,
    fun h => nomatch (roundName_inj (k := .buf) (k' := .idx) h).1⟩

/-- round files are never final files -/
theorem C06_names_round (r : Nat) (L : String) (w : W) :
    isRoundFile (bufName r L w) = true ∧ isRoundFile (idxName r L w) = true ∧
    isFinalFile (bufName r L w) = false ∧ isFinalFile (idxName r L w) = false :=
  ⟨isRoundFile_roundName .buf r L w, isRoundFile_roundName .idx r L w,
    not_isFinalFile_of_isRoundFile (isRoundFile_roundName .buf r L w),
    not_isFinalFile_of_isRoundFile (isRoundFile_roundName .idx r L w)⟩

/-- the listing of round `r` finds the files of round `r` and of no other round, buffers and
indices apart -/
theorem C06_glob (r r' : Nat) (L : String) (w : W) :
    (matchB r (bufName r' L w) = true ↔ r = r') ∧ (matchI r (idxName r' L w) = true ↔ r = r') ∧
    matchB r (idxName r' L w) = false ∧ matchI r (bufName r' L w) = false :=
  ⟨(matchK_roundName (k := .buf) (k' := .buf)).trans (and_iff_right rfl),
    (matchK_roundName (k := .idx) (k' := .idx)).trans (and_iff_right rfl),
    matchK_roundName_of_ne (k := .buf) (k' := .idx) nofun r r' L w, matchK_roundName_of_ne (k := .idx) (k' := .buf) nofun r r' L w⟩

variable (pol : BB.Cfg → Policy)

/-- tasks with different labels write disjoint sets of names -/
theorem C06_disjoint_labels (r : Nat) (L L' : String) (hL : L ≠ L') (g g' : Except Err (List (W × List Clu))) :
    DisjointTasks (g.map (saveGroups r L)) (g'.map (saveGroups r L')) :=
  LabelTask.disjoint hL (LabelTask.of_saveGroups r L g) (LabelTask.of_saveGroups r L' g')

/-- **C06 (disjointness)**: the tasks of the initial round, and of every midsection round on any
directory, write pairwise disjoint sets of names -/
theorem C06_disjoint (c : Cfg) (files : List (List Row)) (allRows : List Row) (r : Nat) (fs : FS) :
    (initTasks pol c files).Pairwise DisjointTasks ∧ (midTasks pol c allRows r fs).Pairwise DisjointTasks :=
  ⟨initTasks_disjoint pol c files, midTasks_disjoint pol c allRows r fs⟩

/-- two file writes to different names can be swapped -/
theorem C06_write_comm (fs : FS) (n m : String) (c d : Content) (h : n ≠ m) :
    (fs.write n c).write m d = (fs.write m d).write n c := write_comm fs n m c d h

/-- **C06 (commutation)**: executing tasks with pairwise disjoint write sets in any order gives the
same outcome: both executions fail, or both succeed with the same directory -/
theorem C06_commute (fs : FS) (tasks tasks' : List (Except Err Writes)) (hperm : tasks'.Perm tasks)
    (hd : tasks.Pairwise DisjointTasks) :
    (execRound fs tasks').toOption = (execRound fs tasks).toOption :=
  execRound_perm hperm hd fs

/-- a round that succeeds in one order succeeds in every order, with the same directory -/
theorem C06_commute_ok (fs fs' : FS) (tasks tasks' : List (Except Err Writes)) (hperm : tasks'.Perm tasks)
    (hd : tasks.Pairwise DisjointTasks) (h : execRound fs tasks = .ok fs') : execRound fs tasks' = .ok fs' :=
  (toOption_eq_iff.mp (C06_commute fs tasks tasks' hperm hd) fs').mpr h

/-- failure is order-independent as well -/
theorem C06_commute_isOk (fs : FS) (tasks tasks' : List (Except Err Writes)) (hperm : tasks'.Perm tasks)
    (hd : tasks.Pairwise DisjointTasks) : (execRound fs tasks').isOk = (execRound fs tasks).isOk := by
  rw [isOk_eq_toOption, isOk_eq_toOption, C06_commute fs tasks tasks' hperm hd]

/-- the model executes every task of a round exactly once, whatever `sched` returns -/
theorem C06_order_perm (sched : Nat → List Nat → List Nat) (r n : Nat) :
    (orderOf sched r n).Perm (List.range n) := orderOf_perm sched r n

/-- sorting a directory listing makes its order irrelevant (`sorted ∘ shuffle = sorted`) -/
theorem C06_sorted (l l' : List String) (h : l.Perm l') : l.mergeSort (· ≤ ·) = l'.mergeSort (· ≤ ·) :=
  mergeSort_names_perm h

/-- the file pairs a round reads depend only on which round files exist, not on anything else in
the directory -/
theorem C06_prevPairs (a b : FS) (ha : a.WF) (hb : b.WF)
    (h : ∀ n, isRoundFile n = true → a.read n = b.read n) (r : Nat) : prevPairs a r = prevPairs b r :=
  Same.pairs_eq ⟨ha, hb, h⟩ r

/-- **C06**: two schedules give the same outcome (both fail, or both succeed with the same
directory — in particular the same `clusters.pkl` and `cluster-centroids-packed.pkl`) -/
theorem C06_sched (c : Cfg) (files : List (List Row)) (sched sched' : Nat → List Nat → List Nat) (fs0 : FS) :
    (multiround pol c files sched fs0).toOption = (multiround pol c files sched' fs0).toOption :=
  -- the right side of `multiround_ok_iff` does not mention the schedule
  toOption_eq_iff.mpr fun fs => by rw [multiround_ok_iff, multiround_ok_iff]

/-- the successful case of `C06_sched` -/
theorem C06_sched_ok (c : Cfg) (files : List (List Row)) (sched sched' : Nat → List Nat → List Nat) (fs0 fs : FS)
    (h : multiround pol c files sched fs0 = .ok fs) : multiround pol c files sched' fs0 = .ok fs :=
  (toOption_eq_iff.mp (C06_sched pol c files sched sched' fs0) fs).mp h

/-- for the reference policy `refPolicy X`, the code's own merge decisions -/
theorem C06_sched_ref (X : ExpTab) (c : Cfg) (files : List (List Row)) (sched sched' : Nat → List Nat → List Nat)
    (fs0 fs : FS) (h : multiround (refPolicy X) c files sched fs0 = .ok fs) :
    multiround (refPolicy X) c files sched' fs0 = .ok fs :=
  C06_sched_ok (refPolicy X) c files sched sched' fs0 fs h

/-! two tasks that write different names and a failing task have pairwise disjoint write sets -/
example : [Except.ok [("a", Content.other 0), ("c", Content.other 2)], Except.ok [("b", Content.other 1)],
    (Except.error Err.value : Except Err Writes)].Pairwise DisjointTasks := by
  simp only [DisjointTasks, List.pairwise_cons, List.mem_cons, List.not_mem_nil, or_false, forall_eq_or_imp,
    forall_eq, Except.ok.injEq, reduceCtorEq, false_implies, implies_true, and_true, List.Pairwise.nil]
  intro wa wb ha hb x hx y hy
  subst ha hb
  simp only [List.mem_cons, List.not_mem_nil, or_false] at hx hy
  subst hy
  rcases hx with rfl | rfl <;> decide

/-! two such tasks leave the same directory in both orders -/
example : execRound [] [Except.ok [("b", Content.other 1)], Except.ok [("a", Content.other 0)]]
    = execRound [] [Except.ok [("a", Content.other 0)], Except.ok [("b", Content.other 1)]] := by
  rw [execRound_cons_ok, execRound_cons_ok, execRound_cons_ok, execRound_cons_ok]
  simp [writeAll, FS.write]

/-! The code: `BBGen.*` is the Lean text the translator writes from the Python source each time the check runs. -/

/-- code: the task tuples `_get_files_range_tuples` makes for the first round are the model's `fileTuples` (which
labels a file by its position in the input list); file `i` is the handle `hs[i]`, its number of rows an input -/
theorem C06_code_task_tuples (expf : Rat → Rat) (files : List (List Row)) (hs : List Nat) (hlen : hs.length = files.length) :
    BBGen._get_files_range_tuples expf (PV.arr .big hs) (PV.arr .big (files.map List.length))
      = ((fileTuples files).zip hs).flatMap
          (fun t => [PV.str t.1.1, PV.int t.2, PV.int t.1.2.2, PV.int ((t.1.2.2 + t.1.2.1.length : Nat) : Int)]) :=
  gen_file_tuples_model expf files hs hlen

/-- code: the same list spelled out — label `zfill z i`, start = the sum of the earlier files' rows -/
theorem C06_code_labels (expf : Rat → Rat) (hs cs : List Nat) (hlen : hs.length = cs.length) :
    BBGen._get_files_range_tuples expf (PV.arr .big hs) (PV.arr .big cs)
      = tuplesFrom (toString hs.length).length 0 0 (hs.zip cs) :=
  gen_file_tuples expf hs cs hlen

/-- the translated function on three files of 2, 0 and 5 rows -/
example : BBGen._get_files_range_tuples (fun x => x) (PV.arr .big [7, 8, 9]) (PV.arr .big [2, 0, 5])
    = [PV.str "0", PV.int 7, PV.int 0, PV.int 2, PV.str "1", PV.int 8, PV.int 2, PV.int 2, PV.str "2", PV.int 9, PV.int 2, PV.int 7] := by
  decide +kernel

end BB.MR
