/-
C10 — merge criteria obey their documented laws.

`accept m X thr new old nom` (`BBModel/Merges.lean`, with `stat`, `slack`, `getMergeFn`) transcribes the six `__call__`
bodies of `bblean/_merges.py`; `X.E n` stands for `np.exp(-decay*n)` and `X.off` for `np.exp(-decay*n_max)`, of which
only antitonicity and `off = E 1000` are assumed, not proved (the check evaluates them on `n = 0 .. 6001`).  `accept` is
pure by construction; that the Python objects keep no state between calls is exercised, not proved.  The statistics
are numbers, not NaN, where `2 ≤ new.n`, which every merge has.
-/
import BBProofs.Merges
import BBProofs.Fl
import BBProofs.GenEq3

namespace BB

/-- accepting at a threshold implies accepting at every lower one, for all six criteria -/
theorem C10_mono_thr (m : MergeFn) (X : ExpTab) (t t' : Rat) (new old nom : Summary)
    (h : accept m X t new old nom = true) (ht : t' ≤ t) : accept m X t' new old nom = true := by
  rw [accept_iff] at h ⊢
  exact ⟨thrOk_mono _ _ ht h.1, h.2⟩

/-- acceptance implies the criterion's statistic of the merged cluster is at least the threshold -/
theorem C10_accept_sound (m : MergeFn) (X : ExpTab) (t : Rat) (new old nom : Summary) (hn : 2 ≤ new.n)
    (h : accept m X t new old nom = true) : ∃ v, stat m.crit new = some v ∧ t ≤ v :=
  accept_sound m X t new old nom hn h

/-- plain radius: accepts iff the radius complement of the merged summary reaches the threshold -/
theorem C10_radius_iff (m : MergeFn) (X : ExpTab) (t : Rat) (new old nom : Summary) (hc : m.crit = .radius)
    (hn : 2 ≤ new.n) : accept m X t new old nom = true ↔ ∃ v, stat m.crit new = some v ∧ t ≤ v :=
  accept_plain_iff m X t new old nom (Or.inl hc) hn

/-- plain diameter: accepts iff the iSIM of the merged summary reaches the threshold -/
theorem C10_diameter_iff (m : MergeFn) (X : ExpTab) (t : Rat) (new old nom : Summary) (hc : m.crit = .diameter)
    (hn : 2 ≤ new.n) : accept m X t new old nom = true ↔ ∃ v, stat m.crit new = some v ∧ t ≤ v :=
  accept_plain_iff m X t new old nom (Or.inr hc) hn

/-- tolerance variants, old cluster a singleton: accept iff the base criterion holds -/
theorem C10_singleton (m : MergeFn) (X : ExpTab) (t : Rat) (new old nom : Summary)
    (hc : m.crit = .tolDiameter ∨ m.crit = .tolRadius) (ho : old.n = 1) (hn : 2 ≤ new.n) :
    accept m X t new old nom = true ↔ ∃ v, stat m.crit new = some v ∧ t ≤ v := by
  rw [accept_iff_of_two_le m X t new old nom (by rcases hc with h | h <;> simp [h]) hn,
    extra_singleton m X new old nom hc ho, and_iff_left rfl]

/-- tolerance variants otherwise: also, the merged statistic is no lower than the old cluster's minus the slack -/
theorem C10_tol_iff (m : MergeFn) (X : ExpTab) (t : Rat) (new old nom : Summary)
    (hc : m.crit = .tolDiameter ∨ m.crit = .tolRadius) (ho : 2 ≤ old.n) (hn : 2 ≤ new.n) :
    accept m X t new old nom = true ↔
      ∃ v o, stat m.crit new = some v ∧ stat m.crit old = some o ∧ t ≤ v ∧ fsub o (slack X m.tol old.n) ≤ v := by
  obtain ⟨v, hv⟩ := Option.isSome_iff_exists.mp (stat_isSome m.crit new hn)
  obtain ⟨o, ho'⟩ := Option.isSome_iff_exists.mp (stat_isSome m.crit old ho)
  rw [accept_iff_of_two_le m X t new old nom (by rcases hc with h | h <;> simp [h]) hn,
    extra_tol_iff m X new old nom hc (by omega) hv ho', hv, ho']
  simp

/-- slack, first part: `max(tol·(E n − off), 0)` is non-negative -/
theorem C10_slack_nonneg (X : ExpTab) (tol : Rat) (n : Nat) : 0 ≤ slack X tol n := le_max_right _ _

/-- slack, second part: for `tol ≥ 0` it grows with the tolerance (float multiplication is monotone) -/
theorem C10_slack_mono (X : ExpTab) (n : Nat) {tol tol' : Rat} (h0 : 0 ≤ tol) (h : tol ≤ tol') :
    slack X tol n ≤ slack X tol' n := slack_mono_tol rnd_isRounding X n h0 h

/-- slack, third part: it vanishes for old clusters of 1000 or more members, for every antitone table with
`off = E 1000` -/
theorem C10_slack_zero (X : ExpTab) (hE : Antitone X.E) (hoff : X.off = X.E 1000) {tol : Rat} (h0 : 0 ≤ tol)
    {n : Nat} (hn : 1000 ≤ n) : slack X tol n = 0 := by
  have hd : fsub (X.E n) X.off ≤ 0 := rnd_nonpos (hoff ▸ sub_nonpos.mpr (hE hn))
  exact max_eq_right (rnd_nonpos (mul_nonpos_of_nonneg_of_nonpos h0 hd))

/-- a larger tolerance accepts at least as much -/
theorem C10_mono_tol (X : ExpTab) (t : Rat) (new old nom : Summary) (c : Crit)
    (hc : c = .tolDiameter ∨ c = .tolRadius) {tol tol' : Rat} (h0 : 0 ≤ tol) (h : tol ≤ tol')
    (ha : accept ⟨c, tol⟩ X t new old nom = true) : accept ⟨c, tol'⟩ X t new old nom = true := by
  rw [accept_iff] at ha ⊢
  exact ⟨ha.1, extra_mono_tol rnd_isRounding X new old nom c (Or.inr h0) h ha.2⟩

/-- legacy tolerance: acceptance implies the diameter bound; a singleton old cluster or a multi-member nominee, plus
the base criterion, suffice -/
theorem C10_legacy (m : MergeFn) (X : ExpTab) (t : Rat) (new old nom : Summary) (hc : m.crit = .tolLegacy)
    (hn : 2 ≤ new.n) :
    (accept m X t new old nom = true → ∃ v, isimFromSum new.ls new.n = some v ∧ t ≤ v) ∧
    ((old.n = 1 ∨ nom.n ≠ 1) → ∀ v, isimFromSum new.ls new.n = some v → t ≤ v → accept m X t new old nom = true) := by
  have hs : stat m.crit new = isimFromSum new.ls new.n := by rw [hc]; rfl
  rw [accept_iff_of_two_le m X t new old nom (by simp [hc]) hn, hs]
  exact ⟨And.left, fun he v hv ht => ⟨⟨v, hv, ht⟩, extra_legacy_pass m X new old nom hc he⟩⟩

/-- never-merge rejects everything -/
theorem C10_never (m : MergeFn) (X : ExpTab) (t : Rat) (new old nom : Summary) (hc : m.crit = .never) :
    accept m X t new old nom = false := accept_never m X t new old nom hc

/-- dispatch by name: the six names are distinct, each yields its criterion with the given tolerance, anything else is
refused -/
theorem C10_dispatch :
    Function.Injective Crit.name ∧ (∀ c tol, getMergeFn c.name tol = some ⟨c, tol⟩) ∧
    (∀ name tol, getMergeFn name tol = none ↔ ∀ c : Crit, c.name ≠ name) := by
  have hnone : ∀ name, Crit.ofName? name = none ↔ ∀ c : Crit, c.name ≠ name := fun name =>
    ⟨fun h c hcn => by rw [← hcn, ofName_name] at h; exact absurd h (by simp), fun h => by
      cases hc : Crit.ofName? name with
      | none => rfl
      | some c => exact absurd (name_of_ofName hc) (h c)⟩
  refine ⟨fun a b hab => ?_, getMergeFn_name, fun name tol => ?_⟩
  · have h := ofName_name a
    rw [hab, ofName_name b] at h
    exact (Option.some.inj h).symm
  · unfold getMergeFn
    rw [Option.map_eq_none_iff]
    exact hnone name

/-! `accept` evaluated: diameter accepts the merge of two identical fingerprints at threshold 1/2. -/
example : accept ⟨.diameter, defaultTol⟩ ⟨fun _ => 1, 1⟩ (1/2) ⟨[2, 2, 0], 2⟩ ⟨[1, 1, 0], 1⟩ ⟨[1, 1, 0], 1⟩ = true := by
  decide +kernel

/-! ## The same laws for the code itself

`BBGen.get_merge_accept_fn` and the `*_call` functions are the Lean text that `tools/py2lean.py` writes from
`bblean/_merges.py`, `_py_similarity.py`, `similarity.py` each time the check runs; `codeAccept` looks the criterion up
by name and calls the object; `expf` stands for `np.exp`; `SumOk`: a summary the tree can produce (sums ≤ count < 2^53,
no division by zero).  A `C10_code_x` whose docstring only names `C10_x` is that law read through `C10_code_accept`. -/

/-- the translated code computes the model's `accept`, for every criterion, tolerance, threshold -/
theorem C10_code_accept (expf : Rat → Rat) (c : Crit) (tol thr : Rat) (new old nom : Summary) (w w' w'' : W)
    (hn : SumOk new) (ho : SumOk old) (hO : 1 ≤ old.n) :
    codeAccept expf c.name tol thr new old nom w w' w''
      = PV.bool (accept ⟨c, tol⟩ (tabOf expf) thr new old nom) :=
  codeAccept_eq expf c tol thr new old nom w w' w'' hn ho hO

/-- code: `C10_mono_thr` -/
theorem C10_code_mono_thr (expf : Rat → Rat) (c : Crit) (tol t t' : Rat) (new old nom : Summary) (w w' w'' : W)
    (hn : SumOk new) (ho : SumOk old) (hO : 1 ≤ old.n)
    (h : codeAccept expf c.name tol t new old nom w w' w'' = PV.bool true) (ht : t' ≤ t) :
    codeAccept expf c.name tol t' new old nom w w' w'' = PV.bool true :=
  (codeAccept_iff expf c tol t' new old nom w w' w'' hn ho hO).mpr
    (C10_mono_thr _ _ t t' new old nom ((codeAccept_iff expf c tol t new old nom w w' w'' hn ho hO).mp h) ht)

/-- code: `C10_accept_sound` -/
theorem C10_code_sound (expf : Rat → Rat) (c : Crit) (tol t : Rat) (new old nom : Summary) (w w' w'' : W)
    (hn : SumOk new) (ho : SumOk old) (hO : 1 ≤ old.n) (h2 : 2 ≤ new.n)
    (h : codeAccept expf c.name tol t new old nom w w' w'' = PV.bool true) :
    ∃ v, stat c new = some v ∧ t ≤ v :=
  C10_accept_sound ⟨c, tol⟩ _ t new old nom h2 ((codeAccept_iff expf c tol t new old nom w w' w'' hn ho hO).mp h)

/-- code: `C10_never` -/
theorem C10_code_never (expf : Rat → Rat) (tol t : Rat) (new old nom : Summary) (w w' w'' : W)
    (hn : SumOk new) (ho : SumOk old) (hO : 1 ≤ old.n) :
    codeAccept expf "never-merge" tol t new old nom w w' w'' = PV.bool false :=
  (codeAccept_eq expf .never tol t new old nom w w' w'' hn ho hO).trans
    (congrArg PV.bool (C10_never ⟨.never, tol⟩ _ t new old nom rfl))

/-- code: a name that is none of the six raises `ValueError` -/
theorem C10_code_unknown (expf : Rat → Rat) (name : String) (tol : Rat) (h : ∀ c : Crit, c.name ≠ name) :
    BBGen.get_merge_accept_fn expf (PV.str name) (PV.flt (some tol)) = PV.err "ValueError" := by
  rw [gen_dispatch, (C10_dispatch.2.2 name tol).mpr h]

theorem tabOf_antitone (expf : Rat → Rat) (hexp : Monotone expf) : Antitone (tabOf expf).E := by
  intro a b hab
  apply hexp
  unfold fmul
  apply rnd_mono
  have h1 : rnd (a : Rat) ≤ rnd (b : Rat) := rnd_mono (Nat.cast_le.mpr hab)
  have hd : (0 : Rat) ≤ decay0 := by unfold decay0; norm_num
  exact mul_le_mul_of_nonpos_left h1 (neg_nonpos.mpr hd)

/-- `C10_slack_zero` at the code's table `tabOf expf` (`E n = expf (-decay·n)`, `off = E 1000`), assuming only that
`np.exp` is monotone.  No `BBGen` term occurs: that the translated criteria compute `slack (tabOf expf)` is part of
`C10_code_accept` (`gen_slack`). -/
theorem C10_code_slack_zero (expf : Rat → Rat) (hexp : Monotone expf) {tol : Rat} (h0 : 0 ≤ tol) {n : Nat}
    (hn : 1000 ≤ n) : slack (tabOf expf) tol n = 0 :=
  C10_slack_zero (tabOf expf) (tabOf_antitone expf hexp) (by simp [tabOf]) h0 hn

/-! `SumOk` holds of the summary (sums `[2, 2, 0]`, count 2) of two identical fingerprints. -/
example : SumOk ⟨[2, 2, 0], 2⟩ :=
  ⟨by decide, by norm_num, by decide +kernel, by decide +kernel⟩

/-- code: `C10_code_accept` with `SumOk` spelled out: sums bounded by the counts (what the tree holds), below the
float-exact range -/
theorem C10_code_accept_consistent (expf : Rat → Rat) (c : Crit) (tol thr : Rat) (new old nom : Summary) (w w' w'' : W)
    (hkn : ∀ k ∈ new.ls, k ≤ new.n) (hnn : new.n + 1 < 2 ^ 53) (hbn : (new.n + 1) * (new.ls.sum + new.ls.length) < 2 ^ 64)
    (hko : ∀ k ∈ old.ls, k ≤ old.n) (hno : old.n + 1 < 2 ^ 53) (hbo : (old.n + 1) * (old.ls.sum + old.ls.length) < 2 ^ 64)
    (hO : 1 ≤ old.n) :
    codeAccept expf c.name tol thr new old nom w w' w''
      = PV.bool (accept ⟨c, tol⟩ (tabOf expf) thr new old nom) :=
  C10_code_accept expf c tol thr new old nom w w' w'' (sumOk_of_consistent new hkn hnn hbn)
    (sumOk_of_consistent old hko hno hbo) hO

/-- code: `C10_singleton` -/
theorem C10_code_singleton (expf : Rat → Rat) (c : Crit) (tol t : Rat) (new old nom : Summary) (w w' w'' : W)
    (hc : c = .tolDiameter ∨ c = .tolRadius) (hn : SumOk new) (ho : SumOk old) (h1 : old.n = 1) (h2 : 2 ≤ new.n) :
    codeAccept expf c.name tol t new old nom w w' w'' = PV.bool true ↔ ∃ v, stat c new = some v ∧ t ≤ v :=
  (codeAccept_iff expf c tol t new old nom w w' w'' hn ho (by omega)).trans
    (C10_singleton ⟨c, tol⟩ (tabOf expf) t new old nom hc h1 h2)

/-- code: `C10_tol_iff` -/
theorem C10_code_tol_iff (expf : Rat → Rat) (c : Crit) (tol t : Rat) (new old nom : Summary) (w w' w'' : W)
    (hc : c = .tolDiameter ∨ c = .tolRadius) (hn : SumOk new) (ho : SumOk old) (h1 : 2 ≤ old.n) (h2 : 2 ≤ new.n) :
    codeAccept expf c.name tol t new old nom w w' w'' = PV.bool true ↔
      ∃ v o, stat c new = some v ∧ stat c old = some o ∧ t ≤ v ∧ fsub o (slack (tabOf expf) tol old.n) ≤ v :=
  (codeAccept_iff expf c tol t new old nom w w' w'' hn ho (by omega)).trans
    (C10_tol_iff ⟨c, tol⟩ (tabOf expf) t new old nom hc h1 h2)

/-- code: `C10_mono_tol` -/
theorem C10_code_mono_tol (expf : Rat → Rat) (c : Crit) (t : Rat) (new old nom : Summary) (w w' w'' : W)
    (hc : c = .tolDiameter ∨ c = .tolRadius) (hn : SumOk new) (ho : SumOk old) (hO : 1 ≤ old.n)
    {tol tol' : Rat} (h0 : 0 ≤ tol) (h : tol ≤ tol')
    (ha : codeAccept expf c.name tol t new old nom w w' w'' = PV.bool true) :
    codeAccept expf c.name tol' t new old nom w w' w'' = PV.bool true :=
  (codeAccept_iff expf c tol' t new old nom w w' w'' hn ho hO).mpr
    (C10_mono_tol (tabOf expf) t new old nom c hc h0 h ((codeAccept_iff expf c tol t new old nom w w' w'' hn ho hO).mp ha))

/-- `C10_slack_nonneg` and `C10_slack_mono` at `tabOf expf`; as in `C10_code_slack_zero`, no `BBGen` term -/
theorem C10_code_slack (expf : Rat → Rat) (n : Nat) {tol tol' : Rat} (h0 : 0 ≤ tol) (h : tol ≤ tol') :
    0 ≤ slack (tabOf expf) tol n ∧ slack (tabOf expf) tol n ≤ slack (tabOf expf) tol' n :=
  ⟨C10_slack_nonneg _ _ _, C10_slack_mono _ _ h0 h⟩

end BB
