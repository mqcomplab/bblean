/-
C13 — compiled kernels agree bit for bit with the Python fallback, on every input on which both are defined.
`BB.Cxx.*` (BBModel/Kernels.lean) transcribes `bblean/csrc/similarity.cpp` at byte / word level, the alignment test an
input flag; each theorem is an equality with the NumPy-side model (BBModel/Bits.lean, Similarity.lean) on the common domain,
and where the C++ throws (`Fault.throws`) or reads outside a buffer (`Fault.oob`) a second theorem says which.
Rows are lists of bytes; a packed array is `X.map pack`.  Proofs: BBProofs/Kernels.lean.
Exercised only, not proved: that the compiled extension (compiler, `popcnt`, pybind11 conversion, the import switch)
behaves like the transcription, and the clause that a clustering does not depend on the extension being installed.
-/
import BBProofs.Kernels

namespace BB

/-! ### popcount -/

/-- both loops of `_popcount_2d`, any alignment flag: the byte-wise popcount in a `uint32_t` -/
theorem C13_popcount_wrap (aligned : Bool) (rows : List (List Nat))
    (h : ∀ r ∈ rows, ∀ b ∈ r, b < 256) :
    Cxx.popcount2d aligned rows = rows.map (fun r => popBytes r % 2 ^ 32) :=
  Cxx.popcount2d_eq_popBytes_mod aligned rows h

/-- **C13 (popcount)**: rows of fewer than 2^29 bytes (no `uint32_t` wrap-around) -/
theorem C13_popcount (aligned : Bool) (rows : List (List Nat))
    (h : ∀ r ∈ rows, ∀ b ∈ r, b < 256) (hsz : ∀ r ∈ rows, 8 * r.length < 2 ^ 32) :
    Cxx.popcount2d aligned rows = rows.map popBytes :=
  Cxx.popcount2d_eq_popBytes aligned rows h
    (fun r hr => lt_of_le_of_lt (popBytes_le r) (hsz r hr))

/-! ### unpack -/

/-- **C13 (unpack)**, `n_features` omitted: the lookup-table copy is `np.unpackbits` (`h` is not used by the proof) -/
theorem C13_unpack (rows : List (List Nat)) (h : ∀ r ∈ rows, ∀ b ∈ r, b < 256) :
    Cxx.unpack2d rows none
      = .ok (rows.map (fun r => (unpack r (8 * r.length)).map (fun b => if b then 1 else 0))) :=
  Cxx.unpack2d_none_eq_unpack rows

/-- **C13 (unpack)**, `n_features = F`, a multiple of 8 within the row (`h` is not used) -/
theorem C13_unpack_some (rows : List (List Nat)) (h : ∀ r ∈ rows, ∀ b ∈ r, b < 256) (F : Nat)
    (hF : F % 8 = 0) (hlen : ∀ r ∈ rows, F ≤ 8 * r.length) :
    Cxx.unpack2d rows (some F)
      = .ok (rows.map (fun r => (unpack r F).map (fun b => if b then 1 else 0))) :=
  Cxx.unpack2d_some_eq_unpack rows F hF hlen

/-- the C++ throws when `n_features` is not a multiple of 8 (`np.unpackbits` accepts those) -/
theorem C13_unpack_rejects (rows : List (List Nat)) (F : Nat) (hF : F % 8 ≠ 0) :
    Cxx.unpack2d rows (some F) = .error .throws :=
  Cxx.unpack2d_throws rows F hF

/-- the C++ reads past the row for `n_features > 8 * n_bytes` (NumPy pads with zeros) -/
theorem C13_unpack_undefined (rows : List (List Nat)) (F : Nat) (hF : F % 8 = 0)
    (hlen : ∃ r ∈ rows, 8 * r.length < F) : Cxx.unpack2d rows (some F) = .error .oob :=
  Cxx.unpack2d_oob rows F hF hlen

/-! ### centroid -/

/-- **C13 (centroid)**, `pack = true`, whole bytes -/
theorem C13_centroid (ls : List Nat) (n : Nat) (hF : ls.length % 8 = 0) (hk : ∀ k ∈ ls, k ≤ n) :
    Cxx.centroidFromSum ls n true = .ok (pack (BB.centroidFromSum ls n)) :=
  Cxx.centroid_packed_eq ls n hF (fun hn k hkm => le_trans (hk k hkm) hn)

/-- **C13 (centroid)**, `pack = false`, every length, as 0/1 bytes -/
theorem C13_centroid_unpacked (ls : List Nat) (n : Nat) (hk : ∀ k ∈ ls, k ≤ n) :
    Cxx.centroidFromSum ls n false
      = .ok ((BB.centroidFromSum ls n).map (fun b => if b then 1 else 0)) :=
  Cxx.centroid_unpacked_eq ls n (fun hn k hkm => le_trans (hk k hkm) hn)

/-- the bound on the sums is needed only for `n ≤ 1`, where the C++ copies them (`static_cast<uint8_t>`) and NumPy tests
them against zero -/
theorem C13_centroid' (ls : List Nat) (n : Nat) (hF : ls.length % 8 = 0)
    (hk : n ≤ 1 → ∀ k ∈ ls, k ≤ 1) :
    Cxx.centroidFromSum ls n true = .ok (pack (BB.centroidFromSum ls n)) :=
  Cxx.centroid_packed_eq ls n hF hk

/-- the packing loop reads past `centroid_unpacked` when the length is not a multiple of 8 -/
theorem C13_centroid_undefined (ls : List Nat) (n : Int) (hF : ls.length % 8 ≠ 0) :
    Cxx.centroidFromSum ls n true = .error .oob :=
  Cxx.centroid_packed_oob ls n hF

/-! ### iSIM -/

/-- **C13 (isim)**: same `uint64_t` wrap-arounds, same rounding points, for all sums and counts -/
theorem C13_isim (ls : List Nat) (n : Nat) : Cxx.isimFromSum ls n = BB.isimFromSum ls n :=
  Cxx.isimFromSum_eq ls n

/-! ### `_jt_sim_arr_vec_packed` -/

/-- **C13 (arrvec)**: word path or byte path, fewer than 2^32 features -/
theorem C13_arrvec (aligned : Bool) (X : List Row) (y : Row) (F : Nat)
    (hX : ∀ x ∈ X, x.length = F) (hy : y.length = F) (hF : F < 2 ^ 32) :
    Cxx.arrVec aligned (X.map pack) (pack y) = .ok (jtArrVec X y) :=
  Cxx.precalc_eq aligned aligned X y hX hy hF

/-- the two buffers may be aligned independently -/
theorem C13_arrvec_mixed (aX aY : Bool) (X : List Row) (y : Row) (F : Nat)
    (hX : ∀ x ∈ X, x.length = F) (hy : y.length = F) (hF : F < 2 ^ 32) :
    Cxx.arrVecG aX aY (X.map pack) (pack y) = .ok (jtArrVec X y) :=
  Cxx.precalc_eq aX aY X y hX hy hF

/-- the C++ compares the row lengths first -/
theorem C13_arrvec_rejects (aligned : Bool) (X : List (List Nat)) (y : List Nat)
    (h : ∃ x ∈ X, x.length ≠ y.length) : Cxx.arrVec aligned X y = .error .throws :=
  Cxx.precalc_throws aligned aligned X y _ h

/-! ### `jt_most_dissimilar_packed` -/

/-- **C13 (dissim)** with `n_features = F` -/
theorem C13_dissim (aligned : Bool) (Y : List Row) (F : Nat) (hF : F % 8 = 0)
    (hlen : ∀ r ∈ Y, r.length = F) (hne : Y ≠ []) (hF32 : F < 2 ^ 32) (hN : Y.length < 2 ^ 64) :
    Cxx.mostDissimilar aligned (Y.map pack) (some F) = .ok (BB.mostDissimilar Y) :=
  Cxx.mostDissimilarG_eq aligned aligned aligned aligned Y hF hlen hne hF32 hN _ (Or.inr rfl)

/-- **C13 (dissim)** with `n_features` omitted -/
theorem C13_dissim_none (aligned : Bool) (Y : List Row) (F : Nat) (hF : F % 8 = 0)
    (hlen : ∀ r ∈ Y, r.length = F) (hne : Y ≠ []) (hF32 : F < 2 ^ 32) (hN : Y.length < 2 ^ 64) :
    Cxx.mostDissimilar aligned (Y.map pack) none = .ok (BB.mostDissimilar Y) :=
  Cxx.mostDissimilarG_eq aligned aligned aligned aligned Y hF hlen hne hF32 hN _ (Or.inl rfl)

/-- whatever the alignments of the input and of the three temporaries -/
theorem C13_dissim_mixed (aY aC a1 a2 : Bool) (Y : List Row) (F : Nat) (hF : F % 8 = 0)
    (hlen : ∀ r ∈ Y, r.length = F) (hne : Y ≠ []) (hF32 : F < 2 ^ 32) (hN : Y.length < 2 ^ 64) :
    Cxx.mostDissimilarG aY aC a1 a2 (Y.map pack) (some F) = .ok (BB.mostDissimilar Y) :=
  Cxx.mostDissimilarG_eq aY aC a1 a2 Y hF hlen hne hF32 hN _ (Or.inr rfl)

/-- the C++ throws when `n_features` is not a multiple of 8 (the fallback does not) -/
theorem C13_dissim_rejects (aligned : Bool) (Y : List (List Nat)) (F : Nat) (hF : F % 8 ≠ 0) :
    Cxx.mostDissimilar aligned Y (some F) = .error .throws :=
  Cxx.mostDissimilarG_throws aligned aligned aligned aligned Y F hF

/-! The kernels on concrete inputs, each fault once. -/

-- two rows on the uint64 loop
example : Cxx.popcount2d true [[0xff, 0, 0xff, 0, 0xff, 0, 0xff, 0], [1, 2, 3, 4, 5, 6, 7, 8]]
    = [32, 13] := by decide +kernel

-- 64 bytes, aligned: the uint64 loop
example : Cxx.popcount1d true (List.replicate 64 0x81) = 128 ∧
    Cxx.popcount1d false (List.replicate 64 0x81) = 128 := by decide +kernel

-- most significant bit first
example : Cxx.unpack2d [[0x81, 0x05]] none
    = .ok [[1, 0, 0, 0, 0, 0, 0, 1, 0, 0, 0, 0, 0, 1, 0, 1]] := by decide +kernel

-- each fault of `unpack`
example : Cxx.unpack2d [[0x81, 0x05]] (some 12) = .error .throws ∧
    Cxx.unpack2d [[0x81, 0x05]] (some 24) = .error .oob := by decide +kernel

-- packed majority; 3 columns cannot be packed; for `n ≤ 1` the sums are copied as `uint8_t`
example : Cxx.centroidFromSum [3, 0, 1, 2, 3, 0, 0, 1] 3 true = .ok [0x98] ∧
    Cxx.centroidFromSum [3, 0, 1] 3 true = .error .oob ∧
    Cxx.centroidFromSum [1, 0, 257] (-2) false = .ok [1, 0, 1] := by decide +kernel

example : Cxx.isimFromSum [3, 0, 1, 2] 3 = some (1 / 2) ∧ Cxx.isimFromSum [1, 0] 1 = none := by
  decide +kernel

-- the second similarity is 1/12 rounded to a double
example : Cxx.arrVec true [[0xff, 0x0f], [0x00, 0x01]] [0xf0, 0xff]
    = .ok [1 / 2, 6004799503160661 / 72057594037927936] := by decide +kernel

-- `n_features` smaller than the row: the shape check of `jt_sim_packed_precalc_cardinalities` throws
example : Cxx.mostDissimilar false [[0xff, 0x0f], [0x00, 0x01], [0xf0, 0xff]] (some 8)
    = .error .throws := by decide +kernel

-- `n_features` omitted: rows 1 and 0
example : (Cxx.mostDissimilar false [[0xff, 0x0f], [0x00, 0x01], [0xf0, 0xff]] none).toOption.map
    (fun r => (r.1, r.2.1)) = some (1, 0) := by decide +kernel

end BB
