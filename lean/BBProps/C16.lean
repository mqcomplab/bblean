/-
C16 — the fingerprint-file utilities preserve content and order (BBModel/FileSeq.lean: `batched`, `partFiles`,
`singleFile`, `mergeFiles`, `fileSeqIndex`).  `fp : String → Option Row` is an arbitrary fingerprint generator
(`none` = invalid SMILES; RDKit is a parameter), and everything is for `skip_invalid = True`.  `C16_invalid` is
about the invalid indices of `fps_from_smiles` and of the single-file branch: the multi-part branch reports only how
many SMILES each part skipped, not which (known finding, known_findings.json).  Not modelled: `fps-info` (checked
by the suite only), and the interleaving of single writes into shared memory (each position is owned by one task).
-/
import BBProofs.FileSeq
import BBProofs.OpsAux
import BBProofs.GenEq11

namespace BB.Files
open BB BB.MR

/-- `batched n xs` cuts `xs` into consecutive non-empty pieces of length `n` (the last one
possibly shorter); the ranges of `rangeBatches` start at `0`, are consecutive, end at
`xs.length`, and range `i` is as long as batch `i`; `idxBatches` numbers the same batches -/
theorem C16_batches {α : Type} (n : Nat) (hn : 1 ≤ n) (xs : List α) :
    (batched n xs).flatten = xs ∧
    (∀ b ∈ batched n xs, b ≠ [] ∧ b.length ≤ n) ∧
    (∀ b ∈ (batched n xs).dropLast, b.length = n) ∧
    (rangeBatches n xs).map (·.2) = batched n xs ∧
    (∀ r ∈ rangeBatches n xs, r.1.2 = r.1.1 + r.2.length) ∧
    (∀ i (h : i + 1 < (rangeBatches n xs).length),
      (rangeBatches n xs)[i + 1].1.1 = (rangeBatches n xs)[i].1.2) ∧
    (∀ r, (rangeBatches n xs).head? = some r → r.1.1 = 0) ∧
    (∀ r, (rangeBatches n xs).getLast? = some r → r.1.2 = xs.length) ∧
    (idxBatches n xs).map (·.2) = batched n xs ∧
    (idxBatches n xs).map (·.1) = List.range (batched n xs).length := by
  refine ⟨batched_flatten hn xs, mem_batched_length hn xs, batched_dropLast hn xs, rangesFrom_map_snd 0 _,
    rangesFrom_end 0 _, rangesFrom_consecutive 0 _, rangesFrom_head 0 _, fun r hr => ?_, ?_, ?_⟩
  · rw [rangesFrom_getLast 0 _ r hr, batched_flatten hn, Nat.zero_add]
  · rw [idxBatches, List.map_map]
    exact (map_zipIdx_fst id _ 0).trans (List.map_id _)
  · rw [idxBatches, List.map_map, List.range_eq_range']
    exact (map_zipIdx_snd id _ 0).trans (List.map_id _)

/-- `bb fps-from-smiles --skip-invalid`, for every batch size `per ≥ 1` and `digits`: (a) the part files concatenated
in task order are the fingerprints of the valid SMILES in input order, the result of the in-process
`fps_from_smiles`; (b) with `digits = some d` and at most `10 ^ d` batches the names are strictly increasing, so
`bb fps-merge` of the parts gives the same rows; (c) the single-file shared-memory branch returns the same rows and
the same invalid indices as `fps_from_smiles` -/
theorem C16_concat (fp : String → Option Row) (smiles : List String) (per : Nat) (hper : 1 ≤ per) :
    (∀ digits out, ((partFiles fp smiles per digits out).map (·.2)).flatten = (fpsFromSmiles fp smiles).1) ∧
    (fpsFromSmiles fp smiles).1 = smiles.filterMap fp ∧
    (∀ d out, (batched per smiles).length ≤ 10 ^ d →
      ((partFiles fp smiles per (some d) out).map (·.1)).Pairwise (· < ·) ∧
      mergeFiles (partFiles fp smiles per (some d) out) = (fpsFromSmiles fp smiles).1) ∧
    singleFile fp smiles per = fpsFromSmiles fp smiles := by
  have hb : ((batched per smiles).map (List.filterMap fp)).flatten = (fpsFromSmiles fp smiles).1 := by
    rw [← List.filterMap_flatten, batched_flatten hper, fpsFromSmiles_fst]
  refine ⟨fun digits out => by rw [partFiles_eq, List.map_map]; exact (congrArg _ (map_zipIdx_fst _ _ 0)).trans hb,
    fpsFromSmiles_fst fp smiles, ?_, ?_⟩
  · intro d out hd
    have := mergeFiles_numbered (out ++ ".") "" d (List.filterMap fp) _ hd
    simp only [String.append_empty, hb] at this
    rw [partFiles_eq]
    exact this
  · exact runTasks_perm fp smiles per hper _ (List.Perm.refl _)

/-- the shared-memory branch gives the result of `fps_from_smiles` for every order in which
the worker pool executes the range tasks -/
theorem C16_concat_any_order (fp : String → Option Row) (smiles : List String) (per : Nat) (hper : 1 ≤ per)
    (tasks : List ((Nat × Nat) × List String)) (hp : tasks.Perm (rangeBatches per smiles)) :
    runTasks fp smiles.length tasks = fpsFromSmiles fp smiles :=
  runTasks_perm fp smiles per hper tasks hp

/-- the invalid indices `fps_from_smiles` reports (hence the single-file branch, `C16_concat` (c); not the
multi-part branch, which reports counts) are the positions `i` with `fp smiles[i] = none`, in increasing order -/
theorem C16_invalid (fp : String → Option Row) (smiles : List String) :
    (fpsFromSmiles fp smiles).2.Pairwise (· < ·) ∧
    ∀ i, i ∈ (fpsFromSmiles fp smiles).2 ↔ ∃ h : i < smiles.length, fp smiles[i] = none :=
  ⟨invalidIdxs_sorted fp smiles, fun _ => mem_invalidIdxs⟩

/-- `parse_num_per_batch`: when a split is requested (`--num-parts` or `--max-fps-per-file`),
`digits = len(str(parts))` and any input of `total` elements has at most `parts ≤ 10 ^ digits` batches: the
hypothesis of `C16_concat` (b) holds for the command's own choice -/
theorem C16_digits {α : Type} (total : Nat) (parts maxPer : Option Nat) (p per : Nat) (dg : Option Nat)
    (h : numPerBatch total parts maxPer = some (p, per, dg)) (hreq : parts.isSome ∨ maxPer.isSome)
    (xs : List α) (hx : xs.length = total) :
    dg = some (toString p).length ∧ (batched per xs).length ≤ p ∧ p ≤ 10 ^ (toString p).length := by
  subst hx
  have hp : p ≤ 10 ^ (toString p).length := Nat.le_of_lt (lt_pow_repr_length p)
  unfold numPerBatch at h
  cases parts with
  | some q =>
    cases maxPer with
    | some m => simp at h
    | none =>
      simp only [Option.some.injEq, Prod.mk.injEq] at h
      obtain ⟨rfl, rfl, rfl⟩ := h
      exact ⟨rfl, batched_length_le_parts xs _, hp⟩
  | none =>
    cases maxPer with
    | some m =>
      simp only [Option.some.injEq, Prod.mk.injEq] at h
      obtain ⟨rfl, rfl, rfl⟩ := h
      exact ⟨rfl, batched_length_le_ceilDiv xs _, hp⟩
    | none => simp at hreq

/-- by definition of the model: both options given is `ValueError` -/
theorem C16_digits_exclusive (total p m : Nat) : numPerBatch total (some p) (some m) = none := rfl

/-- `bb fps-split` followed by `bb fps-merge` restores the rows -/
theorem C16_split_merge {α : Type} (rows : List α) (per digits : Nat) (stem : String) (hper : 1 ≤ per)
    (hd : (batched per rows).length ≤ 10 ^ digits) :
    mergeFiles (splitFile rows per digits stem) = rows := by
  have := (mergeFiles_numbered (stem ++ ".") ".npy" digits id _ hd).2
  rwa [List.map_id, batched_flatten hper] at this

/-- `bb fps-shuffle` only permutes the rows -/
theorem C16_shuffle {α : Type} [Inhabited α] (perm : List Nat) (rows : List α) :
    (shuffleRows perm rows).Perm rows := applyPerm_perm rows perm

/-- sorted indices (repeats allowed, possibly none) below the total number of rows are
extracted from the concatenation of the files (empty files allowed) -/
theorem C16_fileseq (files : List (List Row)) (idxs : List Nat) (hs : idxs.Pairwise (· ≤ ·))
    (hb : ∀ i ∈ idxs, i < (files.map List.length).sum) :
    fileSeqIndex files idxs = .ok (idxs.map (fun i => files.flatten.getD i [])) := by
  rw [← List.length_flatten] at hb
  rw [fileSeqIndex_eq, if_pos ⟨hs, hb⟩]

/-- the same, row by row: row `k` of the result is row `idxs[k]` of the concatenated files -/
theorem C16_fileseq_rows (files : List (List Row)) (idxs : List Nat) (hs : idxs.Pairwise (· ≤ ·))
    (hb : ∀ i ∈ idxs, i < (files.map List.length).sum) :
    ∃ out, fileSeqIndex files idxs = .ok out ∧ out.length = idxs.length ∧
      ∀ k (hk : k < idxs.length) (hk' : k < out.length) (hi : idxs[k] < files.flatten.length),
        out[k] = files.flatten[idxs[k]] := by
  refine ⟨_, C16_fileseq files idxs hs hb, by simp, ?_⟩
  intro k hk hk' hi
  simp [List.getD_eq_getElem?_getD, List.getElem?_eq_getElem hi]

/-- unsorted indices, or an index beyond the files: `ValueError` -/
theorem C16_fileseq_err (files : List (List Row)) (idxs : List Nat)
    (h : ¬ idxs.Pairwise (· ≤ ·) ∨ ∃ i ∈ idxs, (files.map List.length).sum ≤ i) :
    fileSeqIndex files idxs = .error .value := by
  rw [← List.length_flatten] at h
  rw [fileSeqIndex_eq, if_neg]
  rintro ⟨hs, hb⟩
  rcases h with h | ⟨i, hi, hn⟩
  · exact h hs
  · exact absurd (hb i hi) (by omega)

/-! evaluations of `batched`, `rangeBatches` and `numPerBatch` -/
example : batched 3 [0, 1, 2, 3, 4, 5, 6] = [[0, 1, 2], [3, 4, 5], [6]] := by decide
example : rangeBatches 3 ["a", "b", "c", "d", "e", "f", "g"]
    = [((0, 3), ["a", "b", "c"]), ((3, 6), ["d", "e", "f"]), ((6, 7), ["g"])] := by decide
example : numPerBatch 7 (some 3) none = some (3, 3, some 1) := by decide
example : numPerBatch 25 none (some 2) = some (13, 2, some 2) := by decide

/-- `C16_fileseq` on three files (the middle one empty) and a repeated index; then `C16_fileseq_err` on unsorted
indices and on an index beyond the files -/
example : fileSeqIndex [[[true], [false]], [], [[true, true]]] [0, 2, 2]
    = .ok [[true], [true, true], [true, true]] :=
  C16_fileseq [[[true], [false]], [], [[true, true]]] [0, 2, 2] (by decide) (by decide)

example : fileSeqIndex [[[true], [false]], [], [[true, true]]] [2, 0] = .error .value :=
  C16_fileseq_err _ _ (Or.inl (by decide))

example : fileSeqIndex [[[true], [false]], [], [[true, true]]] [1, 3] = .error .value :=
  C16_fileseq_err _ _ (Or.inr ⟨3, by decide, by decide⟩)

/-- `C16_concat` with "C" and "N" valid and "?" not: the parts hold two rows, the single file reports index 1 -/
example :
    let fp : String → Option Row := fun s => if s = "C" then some [true] else if s = "N" then some [false] else none
    ((partFiles fp ["C", "?", "N"] 2 (some 1) "fps").map (·.2)).flatten = [[true], [false]] ∧
    singleFile fp ["C", "?", "N"] 2 = ([[true], [false]], [1]) := by
  intro fp
  have h := C16_concat fp ["C", "?", "N"] 2 (by decide)
  have e : fpsFromSmiles fp ["C", "?", "N"] = ([[true], [false]], [1]) := by decide
  exact ⟨by rw [h.1, e], by rw [h.2.2.2, e]⟩

/-! The code: `BBGen.*` is the Lean text the translator writes from the Python source each time the check runs. -/

/-- code: the number of parts, the batch size and the pad width `parse_num_per_batch` computes are the model's
`numPerBatch`, for fewer than 2^53 SMILES (where `math.ceil(smiles_num / parts)` is the exact ceiling) -/
theorem C16_code_num_per_batch (expf : Rat → Rat) (total : Nat) (parts maxPer : Option Nat) (ht : total < 2 ^ 53)
    (hp : ∀ p, parts = some p → 0 < p) (hm : ∀ m, maxPer = some m → 0 < m) :
    BBGen.parse_num_per_batch expf (PV.int total) (onat parts) (onat maxPer)
      = match numPerBatch total parts maxPer with
        | none => [PV.err "ValueError"]
        | some (p, per, dg) => [PV.int p, PV.int per, onat dg] :=
  gen_num_per_batch expf total parts maxPer ht hp hm

/-- code: `C16_digits` for the code: when a split is requested it returns `[p, per, len(str(p))]`, and any input of
`total` elements has at most `p ≤ 10 ^ len(str(p))` batches -/
theorem C16_code_digits {α : Type} (expf : Rat → Rat) (total : Nat) (parts maxPer : Option Nat) (ht : total < 2 ^ 53)
    (hp : ∀ p, parts = some p → 0 < p) (hm : ∀ m, maxPer = some m → 0 < m) (hreq : parts.isSome ∨ maxPer.isSome)
    (hex : ¬ (parts.isSome ∧ maxPer.isSome)) (xs : List α) (hx : xs.length = total) :
    ∃ p per : Nat, BBGen.parse_num_per_batch expf (PV.int total) (onat parts) (onat maxPer)
        = [PV.int p, PV.int per, PV.int (toString p).length] ∧
      (batched per xs).length ≤ p ∧ p ≤ 10 ^ (toString p).length := by
  rw [gen_num_per_batch expf total parts maxPer ht hp hm]
  cases hn : numPerBatch total parts maxPer with
  | none =>
    exfalso
    cases parts <;> cases maxPer <;> simp_all [numPerBatch]
  | some r =>
    obtain ⟨p, per, dg⟩ := r
    obtain ⟨hdg, hb, hpw⟩ := C16_digits total parts maxPer p per dg hn hreq xs hx
    subst hdg
    exact ⟨p, per, rfl, hb, hpw⟩

/-- both options: the code raises `ValueError` (the command turns it into an abort) -/
theorem C16_code_exclusive (expf : Rat → Rat) (total p m : Nat) :
    BBGen.parse_num_per_batch expf (PV.int total) (PV.int p) (PV.int m) = [PV.err "ValueError"] := by
  simp only [BBGen.parse_num_per_batch, pv]

/-- the translated function on 17 SMILES in 9 parts: batches of 2, one digit -/
example : BBGen.parse_num_per_batch (fun x => x) (PV.int 17) (PV.int 9) PV.pynone = [PV.int 9, PV.int 2, PV.int 1] := by
  decide +kernel

end BB.Files
