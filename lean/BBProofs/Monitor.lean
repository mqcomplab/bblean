/-
The repaired (`Proto.rename`) monitor protocol: an invariant `Inv P lo b s` over the steps of an
arbitrary schedule, from which `BBProps/C20.lean` takes `run_rename_ok`, `run_rename_mono` and
`runFS_rename_prefix`.  Ghost quantities: `b`, the value published under the name `max-rss.txt` (0
while it is absent), and `lo`, the largest value a completed reader returned; `P` is any predicate
the written values satisfy.  Why the protocol works: as long as the writer still writes to the inode
named `tmp` it holds `empty` or `part`, so it is none of the inodes with `full` content that `final`
names or a reader holds (`getElem?_set_of_ne`); once it holds `full v` only the rename is left.
-/
import BBModel.Monitor

namespace BB.Mon

theorem maxima_spec : ∀ (m : Nat) (ss : List Nat),
    (m :: maxima m ss).Pairwise (· < ·) ∧ ∀ v ∈ maxima m ss, v ∈ ss
  | _, [] => by simp [maxima]
  | m, s :: ss => by
    obtain ⟨h1, h2⟩ := maxima_spec s ss
    obtain ⟨h3, h4⟩ := maxima_spec m ss
    simp only [maxima]
    split
    · next hlt =>
      refine ⟨List.pairwise_cons.2 ⟨fun v hv => ?_, h1⟩, fun v hv => ?_⟩
      · rcases List.mem_cons.1 hv with rfl | hv
        · exact hlt
        · exact Nat.lt_trans hlt (List.rel_of_pairwise_cons h1 hv)
      · rcases List.mem_cons.1 hv with rfl | hv
        · exact List.mem_cons_self
        · exact List.mem_cons_of_mem _ (h2 v hv)
    · exact ⟨h3, fun v hv => List.mem_cons_of_mem _ (h4 v hv)⟩

/-- a strictly increasing chain above `b`, all of whose members satisfy `P` -/
def Chain (P : Nat → Prop) : Nat → List Nat → Prop
  | _, [] => True
  | b, v :: vs => b < v ∧ P v ∧ Chain P v vs

theorem chain_of_pairwise (P : Nat → Prop) : ∀ (b : Nat) (vs : List Nat),
    (b :: vs).Pairwise (· < ·) → (∀ v ∈ vs, P v) → Chain P b vs
  | _, [], _, _ => trivial
  | _, v :: vs, h, hP =>
    ⟨List.rel_of_pairwise_cons h List.mem_cons_self, hP v List.mem_cons_self,
      chain_of_pairwise P v vs (List.pairwise_cons.1 h).2 fun w hw => hP w (List.mem_cons_of_mem _ hw)⟩

theorem getElem?_append_of_some {α} {l l' : List α} {i : Nat} {x : α} (h : l[i]? = some x) :
    (l ++ l')[i]? = some x := by
  have hi : i < l.length := (List.getElem?_eq_some_iff.1 h).1
  rw [List.getElem?_append_left hi, h]

/-- different contents, hence different indices -/
theorem getElem?_set_of_ne {α} {l : List α} {i j : Nat} {a x c : α}
    (hj : l[j]? = some a) (hi : l[i]? = some x) (hne : a ≠ x) : (l.set j c)[i]? = some x := by
  have : j ≠ i := by
    intro e; subst e; rw [hj] at hi; exact hne (Option.some.inj hi)
  rw [List.getElem?_set_ne this, hi]

theorem getElem?_set_self_of_some {α} {l : List α} {j : Nat} {a c : α}
    (hj : l[j]? = some a) : (l.set j c)[j]? = some c := by
  have hi : j < l.length := (List.getElem?_eq_some_iff.1 hj).1
  simp [List.getElem?_set_self hi]

/-- the name `max-rss.txt` is absent, or points at a completely written inode of value `b` -/
def Published (P : Nat → Prop) (b : Nat) (fs : FS) : Prop :=
  (fs.final = none ∧ b = 0) ∨ (∃ i, fs.final = some i ∧ fs.inodes[i]? = some (Content.full b) ∧ P b)

/-- what the invariant says of a reader in state `r`; `False` in the terminal states, which
`St.rstep` moves to `out` at once -/
def ReaderOK (P : Nat → Prop) (lo b : Nat) (fs : FS) : RState → Prop
  | .start => True
  | .sawExists => fs.final ≠ none
  | .opened i => fs.final ≠ none ∧ ∃ v, fs.inodes[i]? = some (Content.full v) ∧ P v ∧ lo ≤ v ∧ v ≤ b
  | .read c => fs.final ≠ none ∧ ∃ v, c = .full v ∧ P v ∧ lo ≤ v ∧ v ≤ b
  | _ => False

/-- the writer's remaining effects when the values `vs` are still to be published -/
abbrev upd (vs : List Nat) : List WOp := vs.flatMap (updateOps .rename)

/-- position of the writer inside an update, with what the tmp inode holds there -/
inductive Phase (P : Nat → Prop) (b : Nat) (fs : FS) (h : Handle) : List WOp → Prop
  | idle (vs : List Nat) (ops : List WOp) : ops = upd vs → fs.tmp = none → Chain P b vs →
      Phase P b fs h ops
  | opened (j v : Nat) (vs : List Nat) : fs.tmp = some j → h = some j →
      fs.inodes[j]? = some .empty → Chain P b (v :: vs) →
      Phase P b fs h (.writePartial :: .writeFull v :: .renameTmp :: upd vs)
  | part (j v : Nat) (vs : List Nat) : fs.tmp = some j → h = some j →
      fs.inodes[j]? = some .part → Chain P b (v :: vs) →
      Phase P b fs h (.writeFull v :: .renameTmp :: upd vs)
  | full (j v : Nat) (vs : List Nat) : fs.tmp = some j →
      fs.inodes[j]? = some (Content.full v) → Chain P b (v :: vs) →
      Phase P b fs h (.renameTmp :: upd vs)

/-- a completed reader returned `none`, or a value `≤ lo` satisfying `P` while the name `final`
was present -/
def OutOK (P : Nat → Prop) (lo : Nat) (fs : FS) (r : RState) : Prop :=
  r = .done none ∨ ∃ v, r = .done (some v) ∧ P v ∧ v ≤ lo ∧ fs.final ≠ none

theorem OutOK.mono {P : Nat → Prop} {lo lo' : Nat} {fs fs' : FS} {r : RState} (hlo : lo ≤ lo')
    (name : fs.final ≠ none → fs'.final ≠ none) : OutOK P lo fs r → OutOK P lo' fs' r
  | .inl h => .inl h
  | .inr ⟨v, h, hp, hle, hn⟩ => .inr ⟨v, h, hp, Nat.le_trans hle hlo, name hn⟩

/-- once a reader has returned a value, every later reader returns a value at least as
large (in particular never `none` again) -/
def MonoOut (out : List RState) : Prop :=
  out.Pairwise (fun a c => ∀ va, a = .done (some va) → ∃ vc, c = .done (some vc) ∧ va ≤ vc)

structure Inv (P : Nat → Prop) (lo b : Nat) (s : St) : Prop where
  /-- a reader never returned more than is published -/
  lo_le : lo ≤ b
  pub : Published P b s.fs
  rd : ReaderOK P lo b s.fs s.r
  wr : Phase P b s.fs s.h s.ops
  out_ok : ∀ r ∈ s.out, OutOK P lo s.fs r
  mono : MonoOut s.out

theorem Inv.out_le {P : Nat → Prop} {lo b : Nat} {s : St} (hi : Inv P lo b s) {v : Nat}
    (hv : RState.done (some v) ∈ s.out) : v ≤ lo ∧ s.fs.final ≠ none := by
  rcases hi.out_ok _ hv with h | ⟨w, h, _, hle, hn⟩
  · cases h
  · cases h; exact ⟨hle, hn⟩

/-- completely written inodes stay as they are -/
def Keeps (fs fs' : FS) : Prop :=
  ∀ (i v : Nat), fs.inodes[i]? = some (Content.full v) → fs'.inodes[i]? = some (Content.full v)

/-- what one writer effect preserves: completely written inodes stay as they are, the name
`final` stays present, the published value does not decrease -/
structure WPres (P : Nat → Prop) (b : Nat) (fs : FS) (b' : Nat) (fs' : FS) (h' : Handle)
    (os : List WOp) : Prop where
  le : b ≤ b'
  pub : Published P b' fs'
  wr : Phase P b' fs' h' os
  keep : Keeps fs fs'
  name : fs.final ≠ none → fs'.final ≠ none

theorem Published.keep {P : Nat → Prop} {b : Nat} {fs fs' : FS} (hf : Published P b fs)
    (hfinal : fs'.final = fs.final) (keep : Keeps fs fs') : Published P b fs' := by
  rcases hf with ⟨h0, hb⟩ | ⟨i, hi, hc, hp⟩
  · exact Or.inl ⟨hfinal ▸ h0, hb⟩
  · exact Or.inr ⟨i, hfinal ▸ hi, keep i b hc, hp⟩

theorem WPres.of_keep {P : Nat → Prop} {b : Nat} {fs fs' : FS} {h' : Handle} {os : List WOp}
    (hf : Published P b fs) (hfinal : fs'.final = fs.final) (keep : Keeps fs fs')
    (wr : Phase P b fs' h' os) : WPres P b fs b fs' h' os :=
  ⟨Nat.le_refl _, hf.keep hfinal keep, wr, keep, fun h => hfinal ▸ h⟩

theorem wstep_pres {P : Nat → Prop} {b : Nat} {fs : FS} {h : Handle} {o : WOp} {os : List WOp}
    (hf : Published P b fs) (hw : Phase P b fs h (o :: os)) :
    ∃ b', WPres P b fs b' (wstep (fs, h) o).1 (wstep (fs, h) o).2 os := by
  cases hw with
  | idle vs _ hops htmp hch =>
    cases vs with
    | nil => simp [upd] at hops
    | cons v vs =>
      cases hops
      refine ⟨b, ?_⟩
      simp only [wstep, htmp]
      exact .of_keep hf rfl (fun i w hi => getElem?_append_of_some hi)
        (Phase.opened fs.inodes.length v vs rfl rfl (by simp) hch)
  | opened j v vs htmp hh hc hch =>
    subst hh
    exact ⟨b, .of_keep hf rfl (fun i w hi => getElem?_set_of_ne hc hi (by simp))
      (Phase.part j v vs htmp rfl (getElem?_set_self_of_some hc) hch)⟩
  | part j v vs htmp hh hc hch =>
    subst hh
    exact ⟨b, .of_keep hf rfl (fun i w hi => getElem?_set_of_ne hc hi (by simp))
      (Phase.full j v vs htmp (getElem?_set_self_of_some hc) hch)⟩
  | full j v vs htmp hc hch =>
    refine ⟨v, ?_⟩
    simp only [wstep, htmp]
    exact {
      le := Nat.le_of_lt hch.1
      pub := Or.inr ⟨j, rfl, hc, hch.2.1⟩
      wr := Phase.idle vs _ rfl rfl hch.2.2
      keep := fun _ _ hi => hi
      name := fun _ => by simp }

theorem readerOK_pres {P : Nat → Prop} {lo b b' : Nat} {fs fs' : FS} {r : RState}
    (hle : b ≤ b') (keep : Keeps fs fs') (name : fs.final ≠ none → fs'.final ≠ none)
    (hr : ReaderOK P lo b fs r) : ReaderOK P lo b' fs' r := by
  cases r with
  | start => trivial
  | sawExists => exact name hr
  | opened i =>
    obtain ⟨hn, v, hv, hp, h1, h2⟩ := hr
    exact ⟨name hn, v, keep i v hv, hp, h1, Nat.le_trans h2 hle⟩
  | read c =>
    obtain ⟨hn, v, hv, hp, h1, h2⟩ := hr
    exact ⟨name hn, v, hv, hp, h1, Nat.le_trans h2 hle⟩
  | done _ => exact hr.elim
  | error => exact hr.elim
  | wrong => exact hr.elim

theorem inv_wstep {P : Nat → Prop} {lo b : Nat} {s : St} (hi : Inv P lo b s) :
    ∃ b', b ≤ b' ∧ Inv P lo b' s.wstep := by
  obtain ⟨fs, h, ops, r, out⟩ := s
  cases ops with
  | nil => exact ⟨b, Nat.le_refl _, hi⟩
  | cons o os =>
    obtain ⟨b', hp⟩ := wstep_pres hi.pub hi.wr
    exact ⟨b', hp.le, {
      lo_le := Nat.le_trans hi.lo_le hp.le
      pub := hp.pub
      rd := readerOK_pres hp.le hp.keep hp.name hi.rd
      wr := hp.wr
      out_ok := fun r hr => (hi.out_ok r hr).mono (Nat.le_refl _) hp.name
      mono := hi.mono }⟩

/-- where a reader step from a good state `r` leads -/
inductive RNext (P : Nat → Prop) (lo b : Nat) (fs : FS) (r' : RState) : Prop
  | goes : r'.isTerminal = false → ReaderOK P lo b fs r' → RNext P lo b fs r'
  | absent : r' = .done none → fs.final = none → RNext P lo b fs r'
  | value (v : Nat) : r' = .done (some v) → P v → lo ≤ v → v ≤ b → fs.final ≠ none →
      RNext P lo b fs r'

theorem rstep_ok {P : Nat → Prop} {lo b : Nat} {fs : FS} {r : RState}
    (hlo : lo ≤ b) (hf : Published P b fs) (hr : ReaderOK P lo b fs r) :
    RNext P lo b fs (rstep fs r) := by
  cases r with
  | start =>
    cases hfin : fs.final with
    | none => exact .absent (by simp [rstep, hfin]) hfin
    | some i => exact .goes (by simp [rstep, hfin, RState.isTerminal]) (by simp [rstep, hfin, ReaderOK])
  | sawExists =>
    rcases hf with ⟨h0, _⟩ | ⟨i, hi, hc, hp⟩
    · exact (hr h0).elim
    · rw [rstep, hi]
      exact .goes rfl ⟨by simp [hi], b, hc, hp, hlo, Nat.le_refl _⟩
  | opened i =>
    obtain ⟨hn, v, hv, hp, h1, h2⟩ := hr
    rw [rstep, hv]
    exact .goes rfl ⟨hn, v, rfl, hp, h1, h2⟩
  | read c =>
    obtain ⟨hn, v, rfl, hp, h1, h2⟩ := hr
    exact .value v rfl hp h1 h2 hn
  | done _ => exact hr.elim
  | error => exact hr.elim
  | wrong => exact hr.elim

theorem inv_rstep {P : Nat → Prop} {lo b : Nat} {s : St} (hi : Inv P lo b s) :
    ∃ lo', lo ≤ lo' ∧ Inv P lo' b s.rstep := by
  obtain ⟨fs, h, ops, r, out⟩ := s
  -- a completing reader's result goes to the end of `out`
  have hout {p : RState → Prop} {a : RState} (hl : ∀ x ∈ out, p x) (ha : p a) :
      ∀ x ∈ out ++ [a], p x :=
    List.forall_mem_append.2 ⟨hl, List.forall_mem_singleton.2 ha⟩
  cases rstep_ok (fs := fs) (r := r) hi.lo_le hi.pub hi.rd with
  | goes ht hr =>
    refine ⟨lo, Nat.le_refl _, ?_⟩
    simp only [St.rstep, ht, Bool.false_eq_true, if_false]
    exact { hi with rd := hr }
  | absent hr hnone =>
    refine ⟨lo, Nat.le_refl _, ?_⟩
    simp only [St.rstep, hr, RState.isTerminal, if_true]
    exact { hi with
      rd := trivial
      out_ok := hout hi.out_ok (.inl rfl)
      -- no reader has returned a value yet: the name would be present
      mono := List.pairwise_append.2 ⟨hi.mono, List.pairwise_singleton _ _,
        fun a ha c _ va hva => absurd hnone (hi.out_le (hva ▸ ha)).2⟩ }
  | value v hr hp h1 h2 hn =>
    refine ⟨v, h1, ?_⟩
    simp only [St.rstep, hr, RState.isTerminal, if_true]
    exact {
      lo_le := h2
      pub := hi.pub
      rd := trivial
      wr := hi.wr
      out_ok := hout (fun r hr => (hi.out_ok r hr).mono h1 id)
        (.inr ⟨v, rfl, hp, Nat.le_refl _, hn⟩)
      mono := List.pairwise_append.2 ⟨hi.mono, List.pairwise_singleton _ _,
        fun a ha c hc va hva =>
          ⟨v, List.mem_singleton.1 hc, Nat.le_trans (hi.out_le (hva ▸ ha)).1 h1⟩⟩ }

theorem inv_step {P : Nat → Prop} {lo b : Nat} {s : St} (hi : Inv P lo b s) (c : Bool) :
    ∃ lo' b', lo ≤ lo' ∧ b ≤ b' ∧ Inv P lo' b' (s.step c) := by
  cases c with
  | true =>
    obtain ⟨b', hb, h⟩ := inv_wstep hi
    exact ⟨lo, b', Nat.le_refl _, hb, h⟩
  | false =>
    obtain ⟨lo', hl, h⟩ := inv_rstep hi
    exact ⟨lo', b, hl, Nat.le_refl _, h⟩

theorem inv_exec {P : Nat → Prop} : ∀ (sched : List Bool) {lo b : Nat} {s : St},
    Inv P lo b s → ∃ lo' b', lo ≤ lo' ∧ b ≤ b' ∧ Inv P lo' b' (s.exec sched)
  | [], lo, b, _, hi => ⟨lo, b, Nat.le_refl _, Nat.le_refl _, hi⟩
  | c :: cs, _, _, _, hi => by
    obtain ⟨lo1, b1, hl1, hb1, h1⟩ := inv_step hi c
    obtain ⟨lo2, b2, hl2, hb2, h2⟩ := inv_exec cs h1
    exact ⟨lo2, b2, Nat.le_trans hl1 hl2, Nat.le_trans hb1 hb2, h2⟩

theorem exec_append (s : St) (a c : List Bool) : s.exec (a ++ c) = (s.exec a).exec c := by
  simp [St.exec, List.foldl_append]

abbrev IsMax (samples : List Nat) (v : Nat) : Prop := v ∈ maxima 0 samples

theorem inv_init (samples : List Nat) :
    Inv (IsMax samples) 0 0 (St.init .rename samples) where
  lo_le := Nat.le_refl _
  pub := Or.inl ⟨rfl, rfl⟩
  rd := trivial
  wr := Phase.idle (maxima 0 samples) _ rfl rfl
    (chain_of_pairwise _ 0 _ (maxima_spec 0 samples).1 (fun _ h => h))
  out_ok := fun _ h => nomatch h
  mono := List.Pairwise.nil

theorem inv_run (samples : List Nat) (sched : List Bool) :
    ∃ lo b, Inv (IsMax samples) lo b ((St.init .rename samples).exec sched) := by
  obtain ⟨lo, b, _, _, h⟩ := inv_exec sched (inv_init samples)
  exact ⟨lo, b, h⟩

theorem Published.finalValue_eq {P : Nat → Prop} {b : Nat} {fs : FS} (hf : Published P b fs) :
    (finalValue fs = none ∧ b = 0) ∨ (finalValue fs = some (.full b) ∧ P b) := by
  rcases hf with ⟨h0, hb⟩ | ⟨i, hi, hc, hp⟩
  · left; simp [finalValue, h0, hb]
  · right; simp [finalValue, hi, hc, hp]

theorem Published.value_eq {P : Nat → Prop} {b v : Nat} {fs : FS} (hf : Published P b fs)
    (h : finalValue fs = some (.full v)) : b = v := by
  rcases hf.finalValue_eq with ⟨h0, _⟩ | ⟨h1, _⟩
  · rw [h0] at h; cases h
  · rw [h1] at h; cases h; rfl

theorem run_rename_ok (samples : List Nat) (sched : List Bool) :
    ∀ r ∈ run .rename samples sched,
      r = .done none ∨ ∃ v, r = .done (some v) ∧ v ∈ maxima 0 samples := by
  obtain ⟨lo, b, h⟩ := inv_run samples sched
  exact fun r hr => (h.out_ok r hr).imp_right fun ⟨v, hv, hp, _⟩ => ⟨v, hv, hp⟩

theorem run_rename_mono (samples : List Nat) (sched : List Bool) :
    MonoOut (run .rename samples sched) := by
  obtain ⟨lo, b, h⟩ := inv_run samples sched
  exact h.mono

theorem runFS_rename_prefix (samples : List Nat) (sched : List Bool) (n m : Nat) (hnm : n ≤ m) :
    ∃ bn bm, bn ≤ bm ∧
      Published (IsMax samples) bn (runFS .rename samples (sched.take n)) ∧
      Published (IsMax samples) bm (runFS .rename samples (sched.take m)) := by
  have hsplit : sched.take m = sched.take n ++ (sched.take m).drop n := by
    have : sched.take n = (sched.take m).take n := by
      rw [List.take_take, Nat.min_eq_left hnm]
    rw [this, List.take_append_drop]
  obtain ⟨lo, bn, hn⟩ := inv_run samples (sched.take n)
  obtain ⟨lo', bm, _, hb, hm⟩ := inv_exec ((sched.take m).drop n) hn
  refine ⟨bn, bm, hb, hn.pub, ?_⟩
  rw [runFS, hsplit, exec_append]
  exact hm.pub

end BB.Mon
