/-
Helper lemmas for C18 (the scikit-learn wrapper): the assignment vector of `get_assignments` in
closed form (`assignments_eq_assigned`: position `j` holds `labelAt clusters 0 j 0`, the number of
the last cluster that lists `j`, with `labelAt_of_mem`, `labelAt_of_not_mem` to evaluate it), the
stable size sort, and the boolean Jaccard distance.
-/
import BBModel.Sklearn
import BBProofs.Bits

namespace BB

/-- the inner loop `a[ids] = v` (with NumPy's bounds check) -/
def setIds (acc : Option (List Nat)) (ids : List Nat) (v : Nat) : Option (List Nat) :=
  ids.foldl (fun a id => a.bind (fun l => if id < l.length then some (l.set id v) else none)) acc

/-- the outer loop over the enumerated clusters -/
def assignFold (cs : List (List Nat × Nat)) (acc : Option (List Nat)) : Option (List Nat) :=
  cs.foldl (fun acc p => setIds acc p.1 (p.2 + 1)) acc

theorem assignments_eq (clusters : List (List Nat)) (n : Nat) :
    assignments clusters n =
      match assignFold clusters.zipIdx (some (List.replicate n 0)) with
      | none => .error .index
      | some a => if a.any (· == 0) then .error .value else .ok a := rfl

theorem setIds_none (ids : List Nat) (v : Nat) : setIds none ids v = none := by
  induction ids with
  | nil => rfl
  | cons id rest ih => simpa [setIds] using ih

theorem setIds_cons (l : List Nat) (id : Nat) (rest : List Nat) (v : Nat) :
    setIds (some l) (id :: rest) v =
      if id < l.length then setIds (some (l.set id v)) rest v else none := by
  by_cases h : id < l.length
  · simp [setIds, h]
  · simpa [setIds, h] using setIds_none rest v

theorem setIds_eq (v : Nat) : ∀ (ids : List Nat) (l : List Nat), setIds (some l) ids v =
    if ∀ id ∈ ids, id < l.length then some (l.mapIdx fun j x => if j ∈ ids then v else x) else none
  | [], l => by
    have : l.mapIdx (fun _ x => x) = l := List.ext_getElem? fun j => by simp [List.getElem?_mapIdx]
    simp [setIds, this]
  | id :: rest, l => by
    rw [setIds_cons]
    by_cases hid : id < l.length
    · rw [if_pos hid, setIds_eq v rest, List.length_set]
      by_cases hr : ∀ id' ∈ rest, id' < l.length
      · rw [if_pos hr, if_pos (by simpa [hid] using hr)]
        congr 1
        apply List.ext_getElem?
        intro j
        simp only [List.getElem?_mapIdx, List.getElem?_set, List.mem_cons]
        by_cases hj : id = j
        · subst hj; simp [hid]
        · have hj' : ¬ j = id := fun e => hj e.symm
          simp [hj, hj']
      · rw [if_neg hr, if_neg (fun h => hr fun x hx => h x (List.mem_cons_of_mem _ hx))]
    · rw [if_neg hid, if_neg (fun h => hid (h id List.mem_cons_self))]

theorem assignFold_none (cs : List (List Nat × Nat)) : assignFold cs none = none := by
  induction cs with
  | nil => rfl
  | cons c rest ih => simpa [assignFold, setIds_none] using ih

/-- what position `j`, holding `x`, holds after the clusters `cs`, numbered from `k`, were
written: the number of the last cluster that lists `j` -/
def labelAt (cs : List (List Nat)) (k j x : Nat) : Nat :=
  (cs.zipIdx k).foldl (fun v p => if j ∈ p.1 then p.2 + 1 else v) x

/-- the loop of `get_assignments` acts on every position independently -/
theorem assignFold_eq : ∀ (cs : List (List Nat)) (k : Nat) (l : List Nat),
    assignFold (cs.zipIdx k) (some l) =
      if ∀ c ∈ cs, ∀ id ∈ c, id < l.length then some (l.mapIdx (labelAt cs k)) else none
  | [], k, l => by
    have : l.mapIdx (labelAt [] k) = l := List.ext_getElem? fun j => by
      rw [List.getElem?_mapIdx]; exact Option.map_id'
    simp [assignFold, this]
  | c :: rest, k, l => by
    rw [List.zipIdx_cons]
    show assignFold (rest.zipIdx (k + 1)) (setIds (some l) c (k + 1)) = _
    rw [setIds_eq]
    by_cases hc : ∀ id ∈ c, id < l.length
    · rw [if_pos hc, assignFold_eq rest (k + 1), List.length_mapIdx, List.mapIdx_mapIdx]
      simp only [List.forall_mem_cons, and_iff_right hc]
      rfl
    · rw [if_neg hc, assignFold_none, if_neg (fun h => hc (h c List.mem_cons_self))]

theorem labelAt_of_not_mem : ∀ (cs : List (List Nat)) (k j x : Nat), (∀ c ∈ cs, j ∉ c) →
    labelAt cs k j x = x
  | [], _, _, _, _ => rfl
  | c :: rest, k, j, x, h => by
    show labelAt rest (k + 1) j (if j ∈ c then k + 1 else x) = x
    rw [if_neg (h c List.mem_cons_self),
      labelAt_of_not_mem rest (k + 1) j x fun c' hc' => h c' (List.mem_cons_of_mem _ hc')]

theorem labelAt_of_mem : ∀ (cs : List (List Nat)) (k j x : Nat), cs.flatten.Nodup →
    ∀ (i : Nat) (hi : i < cs.length), j ∈ cs[i] → labelAt cs k j x = k + i + 1
  | c :: rest, k, j, x, hnd, i, hi, hj => by
    rw [List.flatten_cons, List.nodup_append] at hnd
    obtain ⟨_, hnd2, hdis⟩ := hnd
    show labelAt rest (k + 1) j (if j ∈ c then k + 1 else x) = _
    cases i with
    | zero =>
      have hjc : j ∈ c := by simpa using hj
      rw [if_pos hjc, labelAt_of_not_mem rest (k + 1) j _ fun c' hc' hjc' =>
        hdis j hjc j (List.mem_flatten.mpr ⟨c', hc', hjc'⟩) rfl]
    | succ i =>
      rw [labelAt_of_mem rest (k + 1) j _ hnd2 i (by simpa using hi) (by simpa using hj)]
      omega

/-- the vector `get_assignments` has filled when no id was out of range -/
def assigned (clusters : List (List Nat)) (n : Nat) : List Nat :=
  (List.replicate n 0).mapIdx (labelAt clusters 0)

theorem assigned_length (clusters : List (List Nat)) (n : Nat) : (assigned clusters n).length = n := by
  simp [assigned]

theorem getElem?_assigned (clusters : List (List Nat)) {n j : Nat} (hj : j < n) :
    (assigned clusters n)[j]? = some (labelAt clusters 0 j 0) := by
  rw [assigned, List.getElem?_mapIdx, List.getElem?_replicate, if_pos hj, Option.map_some]

theorem assignments_eq_assigned (clusters : List (List Nat)) (n : Nat) :
    assignments clusters n =
      if ∀ c ∈ clusters, ∀ id ∈ c, id < n then
        if 0 ∈ assigned clusters n then .error .value else .ok (assigned clusters n)
      else .error .index := by
  rw [assignments_eq, show clusters.zipIdx = clusters.zipIdx 0 from rfl, assignFold_eq,
    List.length_replicate]
  by_cases h : ∀ c ∈ clusters, ∀ id ∈ c, id < n
  · simp only [if_pos h, List.any_eq_true, beq_iff_eq, exists_eq_right]
    rfl
  · simp only [if_neg h]

theorem sortLe_trans (a b c : Clu) :
    decide (b.n ≤ a.n) = true → decide (c.n ≤ b.n) = true → decide (c.n ≤ a.n) = true := by
  simp only [decide_eq_true_eq]; omega

theorem sortLe_total (a b : Clu) : (decide (b.n ≤ a.n) || decide (a.n ≤ b.n)) = true := by
  simp only [Bool.or_eq_true, decide_eq_true_eq]; omega

theorem sortClus_pairwise (cs : List Clu) : (sortClus cs).Pairwise (fun a b => b.n ≤ a.n) := by
  have := List.pairwise_mergeSort (le := fun a b : Clu => decide (b.n ≤ a.n)) sortLe_trans sortLe_total cs
  simpa [sortClus] using this

/-- stability of the sort -/
theorem sortClus_sublist {cs ys : List Clu} (hp : ys.Pairwise (fun a b => b.n ≤ a.n)) (hs : ys.Sublist cs) :
    ys.Sublist (sortClus cs) :=
  List.sublist_mergeSort (le := fun a b : Clu => decide (b.n ≤ a.n)) sortLe_trans sortLe_total
    (by simpa using hp) hs

/-- `jaccardDist` without its `let` -/
theorem jaccardDist_eq (a b : Row) : jaccardDist a b =
    if popc (orRow a b) = 0 then 0
    else fdiv (popc (xorRow a b) : Rat) (popc (orRow a b) : Rat) := rfl

theorem xorRow_cons_cons (x y : Bool) (a b : Row) :
    xorRow (x :: a) (y :: b) = (x != y) :: xorRow a b := rfl

theorem popc_xorRow_le_orRow : ∀ (a b : Row), popc (xorRow a b) ≤ popc (orRow a b)
  | [], _ => Nat.zero_le _
  | _ :: _, [] => Nat.zero_le _
  | x :: a, y :: b => by
    have ih := popc_xorRow_le_orRow a b
    have hb : b2n (x != y) ≤ b2n (x || y) := by cases x <;> cases y <;> decide
    rw [xorRow_cons_cons, orRow_cons_cons, popc_cons, popc_cons]
    omega

theorem popc_xorRow_self : ∀ (a : Row), popc (xorRow a a) = 0
  | [] => rfl
  | x :: a => by
    rw [xorRow_cons_cons, popc_cons, popc_xorRow_self a, bne_self_eq_false]
    rfl

end BB
