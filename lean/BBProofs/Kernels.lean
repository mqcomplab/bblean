/-
The C++ kernels (`BBModel/Kernels.lean`) against the NumPy-side model (`BBModel/Bits.lean`,
`BBModel/Similarity.lean`): what a kernel computes where it returns (`…_eq…`) and which fault it
raises elsewhere (`…_throws`, `…_oob`).  `BBProps/C13.lean` states this for the entry points and
cites the theorems here; `arrVec`, `arrVecG` and `mostDissimilar` are `precalc` and `mostDissimilarG`
at particular arguments by definition and have no lemma of their own.  A kernel that tests its
arguments with `!=`, `.any` first gets an equation with the tests as propositions
(`unpack2d_some_def`, `centroidFromSum_true`, `precalc_def`); the theorems on its branches rewrite
with that.
-/
import BBModel.Kernels
import BBProofs.Bits
import BBProofs.Fl

theorem Except.ok_bind {ε α β : Type _} (a : α) (f : α → Except ε β) :
    (Except.ok a >>= f) = f a := rfl

theorem Except.error_bind {ε α β : Type _} (e : ε) (f : α → Except ε β) :
    ((Except.error e : Except ε α) >>= f) = .error e := rfl

namespace BB.Cxx

open BB

/-! ### popcount -/

theorem foldl_add_mod {α : Type _} (M : Nat) (f : α → Nat) (l : List α) :
    ∀ init, init < M → l.foldl (fun s x => (s + f x) % M) init = (init + (l.map f).sum) % M := by
  induction l with
  | nil => intro init h; simp [Nat.mod_eq_of_lt h]
  | cons x l ih =>
    intro init h
    have hM : 0 < M := by omega
    rw [List.foldl_cons, ih _ (Nat.mod_lt _ hM), List.map_cons, List.sum_cons, Nat.mod_add_mod,
      Nat.add_assoc]

theorem foldl_u32 {α : Type _} (f : α → Nat) (l : List α) :
    l.foldl (fun s x => u32 (s + f x)) 0 = (l.map f).sum % 2 ^ 32 := by
  have := foldl_add_mod (2 ^ 32) f l 0 (Nat.two_pow_pos 32)
  simpa [u32] using this

theorem map_popNat_eq (bs : List Nat) (h : ∀ b ∈ bs, b < 256) :
    (bs.map popNat).sum = popBytes bs := by
  unfold popBytes
  congr 1
  exact List.map_congr_left (fun b hb => popNat_eq_popByte b (h b hb))

theorem popcount1d_eq_popBytes_mod (aligned : Bool) (bytes : List Nat) (h : ∀ b ∈ bytes, b < 256) :
    popcount1d aligned bytes = popBytes bytes % 2 ^ 32 := by
  unfold popcount1d
  split
  · rw [foldl_u32, words, List.map_map]
    have : (List.map (popNat ∘ wordOfBytes) (chunks 8 bytes)).sum = popWords bytes := rfl
    rw [this, popWords_eq_popBytes' bytes h]
  · rw [foldl_u32, map_popNat_eq bytes h]

theorem popcount2d_eq_popBytes_mod (aligned : Bool) (rows : List (List Nat))
    (h : ∀ r ∈ rows, ∀ b ∈ r, b < 256) :
    popcount2d aligned rows = rows.map (fun r => popBytes r % 2 ^ 32) := by
  unfold popcount2d
  exact List.map_congr_left (fun r hr => popcount1d_eq_popBytes_mod aligned r (h r hr))

theorem popcount2d_eq_popBytes (aligned : Bool) (rows : List (List Nat))
    (h : ∀ r ∈ rows, ∀ b ∈ r, b < 256) (hsz : ∀ r ∈ rows, popBytes r < 2 ^ 32) :
    popcount2d aligned rows = rows.map popBytes := by
  rw [popcount2d_eq_popBytes_mod aligned rows h]
  exact List.map_congr_left (fun r hr => Nat.mod_eq_of_lt (hsz r hr))

/-! ### unpack -/

theorem byteToBits_eq (b : Nat) : byteToBits b = (bitsOfByte b).map b2n := by
  unfold byteToBits bitsOfByte
  rw [List.map_map]
  apply List.map_congr_left
  intro p _
  show (b >>> (7 - p)) &&& 1 = b2n (decide (b / 2 ^ (7 - p) % 2 = 1))
  rw [Nat.and_one_is_mod, Nat.shiftRight_eq_div_pow, b2n_decide_mod]

theorem flatMap_byteToBits (r : List Nat) :
    r.flatMap byteToBits = (r.flatMap bitsOfByte).map b2n := by
  rw [List.map_flatMap]
  exact List.flatMap_congr (fun b _ => byteToBits_eq b)

theorem take_flatMap_bitsOfByte (r : List Nat) :
    ∀ k, (r.take k).flatMap bitsOfByte = (r.flatMap bitsOfByte).take (8 * k) := by
  induction r with
  | nil => intro k; simp
  | cons b r ih =>
    intro k
    cases k with
    | zero => simp
    | succ k =>
      have e1 : List.take (8 * (k + 1)) (bitsOfByte b) = bitsOfByte b :=
        List.take_of_length_le (by rw [bitsOfByte_length]; omega)
      have e2 : 8 * (k + 1) - 8 = 8 * k := by omega
      rw [List.take_succ_cons, List.flatMap_cons, List.flatMap_cons, ih k, List.take_append,
        bitsOfByte_length, e1, e2]

theorem unpack_of_le (r : List Nat) (F : Nat) (h : F ≤ 8 * r.length) :
    unpack r F = (r.flatMap bitsOfByte).take F := by
  unfold unpack
  simp only [length_flatMap_bitsOfByte]
  rw [Nat.sub_eq_zero_of_le h, List.replicate_zero, List.append_nil]

theorem unpack2d_none_eq_unpack (rows : List (List Nat)) :
    unpack2d rows none = .ok (rows.map (fun r => rowToNat (unpack r (8 * r.length)))) := by
  unfold unpack2d
  simp only
  congr 1
  apply List.map_congr_left
  intro r hr
  rw [flatMap_byteToBits r, unpack_full, rowToNat_eq]

theorem unpack2d_some_def (rows : List (List Nat)) (F : Nat) :
    unpack2d rows (some F)
      = if F % 8 ≠ 0 then .error .throws
        else if ∃ r ∈ rows, r.length < F / 8 then .error .oob
        else .ok (rows.map (fun r => (r.take (F / 8)).flatMap byteToBits)) := by
  simp only [unpack2d, bne_iff_ne, List.any_eq_true, decide_eq_true_eq]

theorem unpack2d_some_eq_unpack (rows : List (List Nat)) (F : Nat)
    (hF8 : F % 8 = 0) (hlen : ∀ r ∈ rows, F ≤ 8 * r.length) :
    unpack2d rows (some F) = .ok (rows.map (fun r => rowToNat (unpack r F))) := by
  rw [unpack2d_some_def, if_neg (not_not_intro hF8),
    if_neg (fun ⟨r, hr, h⟩ => by have := hlen r hr; omega)]
  congr 1
  apply List.map_congr_left
  intro r hr
  have e : 8 * (F / 8) = F := by omega
  rw [flatMap_byteToBits, take_flatMap_bitsOfByte, e, unpack_of_le r F (hlen r hr),
    rowToNat_eq]

theorem unpack2d_throws (rows : List (List Nat)) (F : Nat) (hF8 : F % 8 ≠ 0) :
    unpack2d rows (some F) = .error .throws := by
  rw [unpack2d_some_def, if_pos hF8]

theorem unpack2d_oob (rows : List (List Nat)) (F : Nat) (hF8 : F % 8 = 0)
    (hlen : ∃ r ∈ rows, 8 * r.length < F) : unpack2d rows (some F) = .error .oob := by
  obtain ⟨r, hr, h⟩ := hlen
  rw [unpack2d_some_def, if_neg (not_not_intro hF8), if_pos ⟨r, hr, by omega⟩]

theorem unpack2d_none_eq_some (rows : List (List Nat)) (F : Nat) (hF8 : F % 8 = 0)
    (h : ∀ r ∈ rows, 8 * r.length = F) : unpack2d rows none = unpack2d rows (some F) := by
  rw [unpack2d_none_eq_unpack, unpack2d_some_eq_unpack rows F hF8 (fun r hr => (h r hr).ge)]
  exact congrArg Except.ok (List.map_congr_left fun r hr => by rw [h r hr])

/-! ### centroid -/

theorem packByte_step (x : Nat) (a : Bool) :
    u8 (Nat.lor (u8 (x <<< 1)) (b2n a)) = (2 * x + b2n a) % 256 := by
  have ha := b2n_le_one a
  show ((x <<< 1) % (128 * 2) ||| b2n a) % 256 = _
  -- the shifted byte is even, so `|` with a bit is `+`
  rw [Nat.shiftLeft_eq, Nat.pow_one, Nat.mul_mod_mul_right, ← Nat.pow_one 2, ← Nat.shiftLeft_eq,
    ← Nat.shiftLeft_add_eq_or_of_lt (Nat.lt_succ_of_le ha), Nat.shiftLeft_eq, Nat.pow_one]
  omega

/-- eight Horner steps: the loop reduces mod 256 after each (`mod_step` moves the reductions to the
end), `byteOfBits` is the same Horner value (`byteOfBits_eq`) and below 256 -/
theorem packByte_b2n (a b c d e f g h : Bool) :
    packByte [b2n a, b2n b, b2n c, b2n d, b2n e, b2n f, b2n g, b2n h]
      = byteOfBits [a, b, c, d, e, f, g, h] := by
  have mod_step : ∀ y c, (2 * (y % 256) + c) % 256 = (2 * y + c) % 256 := by omega
  rw [← Nat.mod_eq_of_lt (byteOfBits_lt _), byteOfBits_eq]
  simp only [packByte, List.foldl_cons, List.foldl_nil, packByte_step, mod_step,
    List.getD_cons_zero, List.getD_cons_succ]

theorem packByte_map (l : List Bool) (h : l.length = 8) : packByte (l.map b2n) = byteOfBits l := by
  match l, h with
  | [a, b, c, d, e, f, g, i], _ => exact packByte_b2n a b c d e f g i

theorem chunks_packByte (r : Row) (h : r.length % 8 = 0) :
    (chunks 8 (r.map b2n)).map packByte = pack r := by
  induction r using pack.induct with
  | case1 => simp [chunks_nil, pack_nil]
  | case2 b bs ih =>
    have hl : 8 ≤ (b :: bs).length := by
      have : 0 < (b :: bs).length := by simp
      omega
    have hd : ((b :: bs).drop 8).length % 8 = 0 := by
      rw [List.length_drop]; omega
    have ht : ((b :: bs).take 8).length = 8 := by
      rw [List.length_take]; omega
    rw [pack_cons, ← ih hd]
    have e : (b :: bs).map b2n = b2n b :: bs.map b2n := rfl
    rw [e, chunks_cons 8 _ _ (by decide), ← e, List.map_cons, ← List.map_take, ← List.map_drop,
      packByte_map _ ht]

/-- `pack = false`.  For `n ≤ 1` the C++ copies the sums (`static_cast<uint8_t>`) where NumPy tests
them against zero: `hk` makes them 0 or 1 there, and is not needed for `n ≥ 2`. -/
theorem centroid_unpacked_eq (ls : List Nat) (n : Nat) (hk : n ≤ 1 → ∀ k ∈ ls, k ≤ 1) :
    centroidFromSum ls n false = .ok (rowToNat (BB.centroidFromSum ls n)) := by
  have e1 : (n : Int) ≤ 1 ↔ n ≤ 1 := by omega
  have e2 : ∀ k : Nat, (n : Int) ≤ 2 * (k : Int) ↔ n ≤ 2 * k := fun k => by omega
  unfold centroidFromSum BB.centroidFromSum
  simp only [Bool.not_false, if_true, e1, e2, rowToNat_eq]
  congr 1
  split
  · next hn =>
    rw [List.map_map]
    refine List.map_congr_left fun k hkm => ?_
    obtain rfl | rfl : k = 0 ∨ k = 1 := by have := hk hn k hkm; omega
    all_goals simp [u8, b2n]
  · rw [List.map_map]
    exact List.map_congr_left fun k _ => by simp [b2n]

/-- `pack = true`: the packing loop runs over the result for `pack = false`, or past its end -/
theorem centroidFromSum_true (ls : List Nat) (n : Int) :
    centroidFromSum ls n true
      = if ls.length % 8 ≠ 0 then .error .oob
        else (centroidFromSum ls n false).map (fun u => (chunks 8 u).map packByte) := by
  simp only [centroidFromSum, bne_iff_ne, Bool.not_true, Bool.not_false, Bool.false_eq_true,
    if_false, if_true]
  rfl

theorem centroid_packed_eq (ls : List Nat) (n : Nat) (h8 : ls.length % 8 = 0)
    (hk : n ≤ 1 → ∀ k ∈ ls, k ≤ 1) :
    centroidFromSum ls n true = .ok (pack (BB.centroidFromSum ls n)) := by
  rw [centroidFromSum_true, if_neg (not_not_intro h8), centroid_unpacked_eq ls n hk]
  exact congrArg Except.ok (chunks_packByte _ (by rw [centroidFromSum_length]; exact h8))

theorem centroid_packed_oob (ls : List Nat) (n : Int) (h8 : ls.length % 8 ≠ 0) :
    centroidFromSum ls n true = .error .oob := by
  rw [centroidFromSum_true, if_pos h8]

/-! ### iSIM -/

/-- for the two `uint64_t` accumulators `sum_kq`, `sum_kqsq` -/
theorem foldl_u64 {α : Type _} (f : α → Nat) (l : List α) :
    l.foldl (fun s x => u64 (s + f x)) 0 = (l.map f).sum % 2 ^ 64 := by
  have := foldl_add_mod (2 ^ 64) f l 0 (Nat.two_pow_pos 64)
  simpa [u64] using this

/-- `sum_kqsq`: reducing each square before adding changes nothing mod `M` -/
theorem sum_map_mod (M : Nat) (f : Nat → Nat) (l : List Nat) :
    (l.map (fun k => f k % M)).sum % M = (l.map f).sum % M := by
  induction l with
  | nil => rfl
  | cons x l ih =>
    simp only [List.map_cons, List.sum_cons]
    rw [Nat.add_mod, ih, Nat.mod_mod, ← Nat.add_mod]

theorem fdiv_two_ofNat (x : Nat) : fdiv (ofNat x) 2 = ofNat x / 2 := by
  unfold fdiv ofNat
  rw [rnd_half, rnd_idem]

/-- same `uint64_t` wrap-arounds and same rounding points on both sides, for all sums and counts -/
theorem isimFromSum_eq (ls : List Nat) (n : Nat) :
    isimFromSum ls n = BB.isimFromSum ls n := by
  have h1 : ls.foldl (fun s k => u64 (s + k)) 0 = u64 ls.sum := by
    have := foldl_u64 (fun k : Nat => k) ls
    simpa [u64] using this
  have h2 : ls.foldl (fun s k => u64 (s + u64 (k * k))) 0 = u64 (ls.map (fun k => k * k)).sum := by
    rw [foldl_u64 (fun k : Nat => u64 (k * k)) ls]
    exact sum_map_mod (2 ^ 64) (fun k => k * k) ls
  unfold isimFromSum BB.isimFromSum
  simp only [h1, h2, fdiv_two_ofNat, Int.toNat_natCast, show (n : Int) < 2 ↔ n < 2 by omega]

/-! ### `_jt_sim_arr_vec_packed` -/

theorem land_lt_256 {x y : Nat} (hx : x < 256) : Nat.land x y < 256 :=
  Nat.lt_of_le_of_lt (Nat.and_le_left (n := x) (m := y)) hx

theorem andBytes_lt (a b : List Nat) (ha : ∀ x ∈ a, x < 256) : ∀ x ∈ andBytes a b, x < 256 := by
  induction a generalizing b with
  | nil => simp [andBytes]
  | cons x a ih =>
    cases b with
    | nil => simp [andBytes]
    | cons y b =>
      intro z hz
      rw [andBytes_cons_cons] at hz
      rcases List.mem_cons.mp hz with rfl | hz
      · exact land_lt_256 (ha x (by simp))
      · exact ih b (fun w hw => ha w (by simp [hw])) z hz

theorem land_wordOfBytes (a b : List Nat) (ha : ∀ x ∈ a, x < 256) (hb : ∀ x ∈ b, x < 256) :
    Nat.land (wordOfBytes a) (wordOfBytes b) = wordOfBytes (andBytes a b) := by
  induction a generalizing b with
  | nil =>
    show 0 &&& wordOfBytes b = 0
    simp
  | cons x a ih =>
    cases b with
    | nil =>
      show wordOfBytes (x :: a) &&& 0 = 0
      simp
    | cons y b =>
      rw [wordOfBytes_cons, wordOfBytes_cons, andBytes_cons_cons, wordOfBytes_cons,
        ← ih b (fun w hw => ha w (by simp [hw])) (fun w hw => hb w (by simp [hw]))]
      exact land_digit 8 (ha x (by simp)) (hb y (by simp)) _ _

theorem words_nil : words [] = [] := by simp [words, chunks_nil]

theorem words_cons (x : Nat) (xs : List Nat) :
    words (x :: xs) = wordOfBytes ((x :: xs).take 8) :: words ((x :: xs).drop 8) := by
  simp [words, chunks_cons 8 x xs (by decide)]

/-- no assumption on the lengths: the word loop and the byte loop both stop at the shorter buffer -/
theorem sum_words_land (x : List Nat) : ∀ y : List Nat, (∀ b ∈ x, b < 256) → (∀ b ∈ y, b < 256) →
    ((List.zipWith Nat.land (words x) (words y)).map popNat).sum = popBytes (andBytes x y) := by
  induction x using chunks.induct 8 with
  | case1 => intro y _ _; simp [words_nil, andBytes, popBytes]
  | case2 x xs hk => exact absurd hk (by decide)
  | case3 x xs _ ih =>
    intro y hx hy
    cases y with
    | nil => simp [words_nil, andBytes, popBytes]
    | cons y ys =>
      have hxt : ∀ b ∈ (x :: xs).take 8, b < 256 := fun b hb => hx b (List.mem_of_mem_take hb)
      have hyt : ∀ b ∈ (y :: ys).take 8, b < 256 := fun b hb => hy b (List.mem_of_mem_take hb)
      have hxd : ∀ b ∈ (x :: xs).drop 8, b < 256 := fun b hb => hx b (List.mem_of_mem_drop hb)
      have hyd : ∀ b ∈ (y :: ys).drop 8, b < 256 := fun b hb => hy b (List.mem_of_mem_drop hb)
      rw [words_cons x xs, words_cons y ys, List.zipWith_cons_cons, List.map_cons, List.sum_cons,
        ih _ hxd hyd, land_wordOfBytes _ _ hxt hyt,
        popNat_wordOfBytes _ (andBytes_lt _ _ hxt), ← popBytes_append]
      congr 1
      unfold andBytes
      rw [← List.take_zipWith, ← List.drop_zipWith, List.take_append_drop]

theorem interWords_eq (x y : List Nat) (hx : ∀ b ∈ x, b < 256) (hy : ∀ b ∈ y, b < 256) :
    interWords x y = popBytes (andBytes x y) % 2 ^ 32 := by
  unfold interWords
  rw [foldl_u32, sum_words_land x y hx hy]

theorem interBytes_eq (x y : List Nat) (hx : ∀ b ∈ x, b < 256) :
    interBytes x y = popBytes (andBytes x y) % 2 ^ 32 := by
  unfold interBytes
  rw [foldl_u32]
  have : List.zipWith Nat.land x y = andBytes x y := rfl
  rw [this, map_popNat_eq _ (andBytes_lt x y hx)]

/-- `a`, `b` are two popcounts, `c` that of the intersection, `F` the row width: by
inclusion–exclusion (`hu`) the union has at most `F < 2 ^ 32` bits, and the `uint32_t` expression
does not wrap -/
theorem u32AddSub_eq {F : Nat} (a b c : Nat) (hc : c ≤ a) (hu : a + b ≤ c + F)
    (hF32 : F < 2 ^ 32) : u32AddSub a b c = a + b - c := by
  unfold u32AddSub u32
  generalize (2 : Nat) ^ 32 = M at hF32 ⊢
  have e : a + b + M - c = (a + b - c) + M := by omega
  rw [e, Nat.add_mod_right, Nat.mod_eq_of_lt (by omega)]

theorem stdMax_cast (d : Nat) : stdMax (d : Rat) 1 = ((max d 1 : Nat) : Rat) := by
  rw [Nat.cast_max, Nat.cast_one, max_comm, max_def]
  simp only [stdMax, ← not_le, ite_not]

/-- hypotheses as in `u32AddSub_eq` -/
theorem quotient_eq {F : Nat} (inter card vpop : Nat) (hc : inter ≤ card)
    (hu : card + vpop ≤ inter + F) (hF32 : F < 2 ^ 32) :
    quotient inter card vpop = jtCounts inter card vpop := by
  unfold quotient
  rw [u32AddSub_eq card vpop inter hc hu hF32, stdMax_cast]
  rfl

theorem popcount1d_pack {F : Nat} (a : Bool) (r : Row) (hr : r.length = F) (hF32 : F < 2 ^ 32) :
    popcount1d a (pack r) = popc r := by
  rw [popcount1d_eq_popBytes_mod a _ (pack_lt r), popBytes_pack]
  exact Nat.mod_eq_of_lt (lt_of_le_of_lt (hr ▸ popc_le_length r) hF32)

theorem rowSim_eq {F : Nat} (fast : Bool) (y x : Row) (hy : y.length = F) (hx : x.length = F)
    (hF32 : F < 2 ^ 32) : rowSim fast (popc y) (pack y) (pack x) (popc x) = jtBits x y := by
  have hand : popBytes (andBytes (pack x) (pack y)) % 2 ^ 32 = popc (andRow x y) := by
    rw [andBytes_pack x y (by rw [hx, hy]), popBytes_pack]
    exact Nat.mod_eq_of_lt (lt_of_le_of_lt
      (le_trans (popc_andRow_le_left x y) (hx ▸ popc_le_length x)) hF32)
  unfold rowSim
  rw [interWords_eq _ _ (pack_lt x) (pack_lt y), interBytes_eq _ _ (pack_lt x), ite_self, hand]
  unfold jtBits
  exact quotient_eq _ _ _ (popc_andRow_le_left x y)
    (by have := popc_union_le x y (by rw [hx, hy]); omega) hF32

theorem precalc_def (aX aY : Bool) (X : List (List Nat)) (y card : List Nat) :
    precalc aX aY X y card
      = if ∃ x ∈ X, x.length ≠ y.length then .error .throws
        else .ok (List.zipWith
          (rowSim (aX && aY && y.length % 64 == 0) (popcount1d aY y) y) X card) := by
  simp only [precalc, List.any_eq_true, bne_iff_ne]

theorem precalc_eq {F : Nat} (aX aY : Bool) (X : List Row) (y : Row)
    (hX : ∀ x ∈ X, x.length = F) (hy : y.length = F) (hF32 : F < 2 ^ 32) :
    precalc aX aY (X.map pack) (pack y) (popcount2d aX (X.map pack)) = .ok (jtArrVec X y) := by
  have hshape : ¬ ∃ p ∈ X.map pack, p.length ≠ (pack y).length := by
    rintro ⟨p, hp, hne⟩
    obtain ⟨x, hx, rfl⟩ := List.mem_map.mp hp
    rw [pack_length, pack_length, hX x hx, hy] at hne
    exact hne rfl
  have key : ∀ (fast : Bool), ∀ x ∈ X,
      rowSim fast (popcount1d aY (pack y)) (pack y) (pack x) (popcount1d aX (pack x))
        = jtBits x y := by
    intro fast x hx
    rw [popcount1d_pack aY y hy hF32, popcount1d_pack aX x (hX x hx) hF32]
    exact rowSim_eq _ y x hy (hX x hx) hF32
  rw [precalc_def, if_neg hshape, popcount2d, List.map_map, List.zipWith_map, List.zipWith_self]
  exact congrArg Except.ok (List.map_congr_left (key _))

theorem precalc_throws (aX aY : Bool) (X : List (List Nat)) (y card : List Nat)
    (h : ∃ x ∈ X, x.length ≠ y.length) : precalc aX aY X y card = .error .throws := by
  rw [precalc_def, if_pos h]

/-! ### `jt_most_dissimilar_packed` -/

theorem zipWith_u64_eq_addLs (A B : List Nat) (hl : A.length = B.length)
    (hb : ∀ i, A.getD i 0 + B.getD i 0 < 2 ^ 64) :
    List.zipWith (fun s b => u64 (s + b)) A B = addLs A B := by
  induction A, B, hl using length_eq_induction with
  | nil => rfl
  | cons a A b B _ ih =>
    rw [List.zipWith_cons_cons, addLs_cons_cons, ih (fun i => hb (i + 1)), u64,
      Nat.mod_eq_of_lt (show a + b < 2 ^ 64 from hb 0)]

/-- the uint64 column-sum loop from any accumulator that leaves room for one more bit per row -/
theorem foldl_u64_rows {F : Nat} (Y : List Row) (hlen : ∀ r ∈ Y, r.length = F) :
    ∀ acc : List Nat, acc.length = F → (∀ i, acc.getD i 0 + Y.length < 2 ^ 64) →
      (Y.map rowToNat).foldl (fun acc r => List.zipWith (fun s b => u64 (s + b)) acc r) acc
        = addLs acc (colSum Y) := by
  induction Y with
  | nil => intro acc _ _; rw [colSum_nil, addLs_nil_right]; rfl
  | cons r Y ih =>
    intro acc hacc hb
    have hr : (rowToNat r).length = F := by rw [rowToNat_length, hlen r (by simp)]
    -- the room for `r :: Y` is one bit for `r` and room for `Y`
    have hstep : ∀ i, acc.getD i 0 + (rowToNat r).getD i 0 + Y.length < 2 ^ 64 := fun i => by
      have := hb i
      have : (rowToNat r).getD i 0 ≤ 1 := by rw [rowToNat_getD]; split <;> omega
      rw [List.length_cons] at *
      omega
    rw [List.map_cons, List.foldl_cons, zipWith_u64_eq_addLs acc _ (hacc.trans hr.symm)
        (fun i => Nat.lt_of_le_of_lt (Nat.le_add_right _ _) (hstep i)),
      ih (fun x hx => hlen x (by simp [hx])) _ (by rw [addLs_length, hacc, hr, Nat.max_self])
        (fun i => by rw [addLs_getD]; exact hstep i),
      addLs_assoc, colSum_cons]

theorem addRowsU64_colSum (F : Nat) (Y : List Row) (hlen : ∀ r ∈ Y, r.length = F) (hne : Y ≠ [])
    (hN : Y.length < 2 ^ 64) : addRowsU64 F (Y.map rowToNat) = colSum Y := by
  have hl := colSum_length Y F hlen hne
  unfold addRowsU64
  rw [foldl_u64_rows Y hlen _ List.length_replicate (fun i => by
      have : (List.replicate F 0).getD i 0 = 0 := by
        simp only [List.getD_eq_getElem?_getD, List.getElem?_replicate]; split <;> rfl
      omega),
    ← hl, addLs_replicate_zero]

theorem getD_map_pack (Y : List Row) (i : Nat) : (Y.map pack).getD i [] = pack (Y.getD i []) := by
  have := getD_map pack Y i []
  rwa [pack_nil] at this

theorem getD_row_length {F : Nat} (Y : List Row) (hlen : ∀ r ∈ Y, r.length = F) (i : Nat)
    (hi : i < Y.length) : (Y.getD i []).length = F := by
  rw [getD_of_lt _ _ hi]
  exact hlen _ (List.getElem_mem hi)

theorem dissimCore_eq (aY aC a1 a2 : Bool) (Y : List Row) (F : Nat) (hF8 : F % 8 = 0)
    (hlen : ∀ r ∈ Y, r.length = F) (hne : Y ≠ []) (hF32 : F < 2 ^ 32) (hN : Y.length < 2 ^ 64) :
    dissimCore aY aC a1 a2 (Y.map pack) F (Y.map rowToNat) = .ok (BB.mostDissimilar Y) := by
  have hcent : centroidFromSum (colSum Y) ((Y.map pack).length : Int) true
      = .ok (pack (BB.centroidFromSum (colSum Y) Y.length)) := by
    rw [List.length_map]
    apply centroid_packed_eq
    · rw [colSum_length Y F hlen hne]; exact hF8
    · intro hn1 k hk
      obtain ⟨i, hi, rfl⟩ := List.getElem_of_mem hk
      have := colSum_getD_le Y i
      rw [getD_of_lt _ _ hi] at this
      omega
  have hnepos : 0 < Y.length := List.length_pos_iff.mpr hne
  have hclen := centroid_length Y F hlen hne
  have hi2 : ∀ v : Row, argminFirst (jtArrVec Y v) < Y.length := by
    intro v
    have := argminFirst_lt (jtArrVec Y v)
      (List.ne_nil_of_length_pos (by rw [jtArrVec_length]; exact hnepos))
    rwa [jtArrVec_length] at this
  unfold dissimCore
  rw [addRowsU64_colSum F _ hlen hne hN, hcent, Except.ok_bind,
    precalc_eq aY aC _ _ hlen hclen hF32, Except.ok_bind, getD_map_pack,
    precalc_eq aY a1 _ _ hlen (getD_row_length _ hlen _ (hi2 _)) hF32, Except.ok_bind,
    getD_map_pack,
    precalc_eq aY a2 _ _ hlen (getD_row_length _ hlen _ (hi2 _)) hF32, Except.ok_bind]
  rfl

/-- `nf` is the argument `n_features`: omitted, or the number of bits of a row -/
theorem mostDissimilarG_eq {F : Nat} (aY aC a1 a2 : Bool) (Y : List Row) (hF8 : F % 8 = 0)
    (hlen : ∀ r ∈ Y, r.length = F) (hne : Y ≠ []) (hF32 : F < 2 ^ 32) (hN : Y.length < 2 ^ 64)
    (nf : Option Nat) (hnf : nf = none ∨ nf = some F) :
    mostDissimilarG aY aC a1 a2 (Y.map pack) nf = .ok (BB.mostDissimilar Y) := by
  have hbytes : ∀ p ∈ Y.map pack, 8 * p.length = F := fun p hp => by
    obtain ⟨r, hr, rfl⟩ := List.mem_map.mp hp
    rw [pack_length, hlen r hr]
    omega
  have hsome : unpack2d (Y.map pack) (some F) = .ok (Y.map rowToNat) := by
    rw [unpack2d_some_eq_unpack (Y.map pack) F hF8 (fun p hp => (hbytes p hp).ge)]
    conv => rhs; rw [← map_unpack_pack Y F hlen]
    simp only [List.map_map]; rfl
  have hunp : unpack2d (Y.map pack) nf = .ok (Y.map rowToNat) := by
    rcases hnf with rfl | rfl
    · rw [unpack2d_none_eq_some _ F hF8 hbytes, hsome]
    · exact hsome
  have hget : nf.getD (((Y.map pack).headD []).length * 8) = F := by
    rcases hnf with rfl | rfl
    · cases Y with
      | nil => exact absurd rfl hne
      | cons y0 Y' =>
        have := hbytes (pack y0) (by simp)
        simp only [List.map_cons, List.headD_cons, Option.getD_none]
        omega
    · rfl
  unfold mostDissimilarG
  rw [hunp, Except.ok_bind, if_neg (by rwa [List.isEmpty_map, List.isEmpty_iff]), hget]
  exact dissimCore_eq aY aC a1 a2 Y F hF8 hlen hne hF32 hN

/-- the NumPy fallback accepts these `n_features` -/
theorem mostDissimilarG_throws (aY aC a1 a2 : Bool) (Y : List (List Nat)) (F : Nat)
    (hF8 : F % 8 ≠ 0) : mostDissimilarG aY aC a1 a2 Y (some F) = .error .throws := by
  unfold mostDissimilarG
  rw [unpack2d_throws Y F hF8, Except.error_bind]

end BB.Cxx
