/-
The file utilities (`BBModel/FileSeq.lean`; BBProps/C16.lean states the results).  Batches are the consecutive
blocks of `ceilDiv` length; zero-filled part names sort in number order, so merging the parts restores the
input order; the shared-memory fill does not depend on how the work is cut; and the file-sequence loop
hands every file the window of a sorted index list that falls into it.
-/
import BBModel.FileSeq
import BBProofs.Names
import Mathlib.Data.List.Zip

namespace BB.Files
open BB BB.MR

/-! ## batching -/

theorem length_drop_cons_le {α : Type} {n : Nat} (hn : 0 < n) (x : α) (t : List α) :
    ((x :: t).drop n).length ≤ t.length := by
  simp only [List.length_drop, List.length_cons]; omega

theorem batchedAux_fuel {α : Type} (n : Nat) (hn : 0 < n) : ∀ (fuel : Nat) (xs : List α),
    xs.length ≤ fuel → batchedAux n fuel xs = batchedAux n xs.length xs := by
  intro fuel
  induction fuel using Nat.strong_induction_on with
  | _ fuel ih =>
    intro xs h
    cases xs with
    | nil => cases fuel <;> rfl
    | cons x t =>
      simp only [List.length_cons] at h
      obtain ⟨fuel, rfl⟩ : ∃ k, fuel = k + 1 := ⟨fuel - 1, by omega⟩
      have hd := length_drop_cons_le hn x t
      simp only [List.length_cons, batchedAux, List.isEmpty_cons, Bool.false_eq_true, if_false]
      rw [ih fuel (by omega) _ (by omega), ih t.length (by omega) _ hd]

@[simp] theorem batched_nil {α : Type} (n : Nat) : batched n ([] : List α) = [] := by
  unfold batched; split <;> rfl

theorem batched_zero {α : Type} (xs : List α) : batched 0 xs = [] := by simp [batched]

theorem batched_of_ne_nil {α : Type} {n : Nat} (hn : 0 < n) {xs : List α} (hx : xs ≠ []) :
    batched n xs = xs.take n :: batched n (xs.drop n) := by
  cases xs with
  | nil => exact absurd rfl hx
  | cons x t =>
    unfold batched
    rw [if_neg (by omega), if_neg (by omega)]
    simp only [List.length_cons, batchedAux, List.isEmpty_cons, Bool.false_eq_true, if_false]
    rw [batchedAux_fuel n hn _ _ (length_drop_cons_le hn x t)]

theorem batched_induct {α : Type} (n : Nat) (hn : 0 < n) (P : List α → Prop) (nil : P [])
    (step : ∀ xs, xs ≠ [] → P (xs.drop n) → P xs) : ∀ xs, P xs := by
  intro xs
  induction h : xs.length using Nat.strong_induction_on generalizing xs with
  | _ k ih =>
    cases xs with
    | nil => exact nil
    | cons x t =>
      apply step _ (by simp)
      apply ih (List.drop n (x :: t)).length _ _ rfl
      subst h
      exact Nat.lt_succ_of_le (length_drop_cons_le hn x t)

theorem batched_flatten {α : Type} {n : Nat} (hn : 0 < n) (xs : List α) : (batched n xs).flatten = xs := by
  induction xs using batched_induct n hn with
  | nil => simp
  | step xs hx ih => rw [batched_of_ne_nil hn hx, List.flatten_cons, ih, List.take_append_drop]

theorem ceilDiv_zero (n : Nat) : ceilDiv 0 n = 0 := by
  unfold ceilDiv
  rcases Nat.eq_zero_or_pos n with rfl | hn
  · simp
  · exact Nat.div_eq_of_lt (by omega)

theorem lt_ceilDiv_iff {k a n : Nat} (hn : 0 < n) : k < ceilDiv a n ↔ k * n < a := by
  unfold ceilDiv
  rw [Nat.lt_iff_add_one_le, Nat.le_div_iff_mul_le hn, Nat.succ_mul]
  omega

theorem ceilDiv_pos_step {a n : Nat} (hn : 0 < n) (ha : 0 < a) : ceilDiv a n = ceilDiv (a - n) n + 1 := by
  unfold ceilDiv
  rcases Nat.lt_or_ge n a with h | h
  · rw [← Nat.add_div_right _ hn]
    congr 1
    omega
  · rw [Nat.sub_eq_zero_of_le h, Nat.div_eq_of_lt_le (k := 1) (by omega) (by omega),
      Nat.div_eq_of_lt (by omega)]

theorem batched_eq {α : Type} {n : Nat} (hn : 0 < n) (xs : List α) :
    batched n xs = (List.range (ceilDiv xs.length n)).map (fun k => (xs.drop (k * n)).take n) := by
  induction xs using batched_induct n hn with
  | nil => simp [ceilDiv_zero]
  | step xs hx ih =>
    rw [batched_of_ne_nil hn hx, ih, ceilDiv_pos_step hn (List.length_pos_iff.mpr hx), List.length_drop,
      List.range_succ_eq_map, List.map_cons, List.map_map]
    simp only [Nat.zero_mul, List.drop_zero, List.cons.injEq, true_and]
    apply List.map_congr_left
    intro k _
    simp only [Function.comp, List.drop_drop, Nat.succ_mul]
    rw [Nat.add_comm]

theorem batched_length {α : Type} {n : Nat} (hn : 0 < n) (xs : List α) :
    (batched n xs).length = ceilDiv xs.length n := by
  rw [batched_eq hn, List.length_map, List.length_range]

theorem ceilDiv_ceilDiv_le (a b : Nat) (hq : 0 < ceilDiv a b) : ceilDiv a (ceilDiv a b) ≤ b := by
  have hb : 0 < b := Nat.pos_of_ne_zero (by rintro rfl; simp [ceilDiv] at hq)
  refine Nat.not_lt.mp (fun h => ?_)
  -- `b` multiples of `ceilDiv a b` would stay below `a`, but `ceilDiv a b` multiples of `b` do not
  have h1 := (lt_ceilDiv_iff hq).mp h
  have h2 := mt (lt_ceilDiv_iff (k := ceilDiv a b) hb).mpr (Nat.lt_irrefl _)
  rw [Nat.mul_comm] at h1
  exact h2 h1

theorem batched_length_le_parts {α : Type} (xs : List α) (p : Nat) :
    (batched (ceilDiv xs.length p) xs).length ≤ p := by
  rcases Nat.eq_zero_or_pos (ceilDiv xs.length p) with h | h
  · rw [h, batched_zero]; simp
  · rw [batched_length h]; exact ceilDiv_ceilDiv_le _ _ h

theorem batched_length_le_ceilDiv {α : Type} (xs : List α) (m : Nat) :
    (batched m xs).length ≤ ceilDiv xs.length m := by
  rcases Nat.eq_zero_or_pos m with rfl | h
  · rw [batched_zero]; simp
  · rw [batched_length h]

theorem mem_batched_length {α : Type} {n : Nat} (hn : 0 < n) (xs : List α) :
    ∀ b ∈ batched n xs, b ≠ [] ∧ b.length ≤ n := by
  rw [batched_eq hn]
  intro b hb
  obtain ⟨k, hk, rfl⟩ := List.mem_map.mp hb
  have := (lt_ceilDiv_iff hn).mp (List.mem_range.mp hk)
  simp only [ne_eq, ← List.length_eq_zero_iff, List.length_take, List.length_drop]
  omega

theorem batched_dropLast {α : Type} {n : Nat} (hn : 0 < n) (xs : List α) :
    ∀ b ∈ (batched n xs).dropLast, b.length = n := by
  rw [batched_eq hn, List.dropLast_eq_take, List.length_map, List.length_range, ← List.map_take, List.take_range]
  intro b hb
  obtain ⟨k, hk, rfl⟩ := List.mem_map.mp hb
  have := (lt_ceilDiv_iff (k := k + 1) (a := xs.length) hn).mp (by have := List.mem_range.mp hk; omega)
  simp only [List.length_take, List.length_drop]
  rw [Nat.succ_mul] at this
  omega

theorem rangesFrom_map_snd {α : Type} (s : Nat) (bs : List (List α)) : (rangesFrom s bs).map (·.2) = bs := by
  induction bs generalizing s with
  | nil => rfl
  | cons b bs ih => simp [rangesFrom, ih]

theorem rangesFrom_length {α : Type} (s : Nat) (bs : List (List α)) : (rangesFrom s bs).length = bs.length := by
  rw [← List.length_map (f := (·.2)), rangesFrom_map_snd]

theorem rangesFrom_getElem {α : Type} (s : Nat) (bs : List (List α)) (i : Nat) (h : i < (rangesFrom s bs).length) :
    (rangesFrom s bs)[i] = ((s + (bs.take i).flatten.length, s + (bs.take (i + 1)).flatten.length),
      bs[i]'(by rw [rangesFrom_length] at h; exact h)) := by
  induction bs generalizing s i with
  | nil => simp [rangesFrom] at h
  | cons b bs ih =>
    cases i with
    | zero => simp [rangesFrom]
    | succ i =>
      simp only [rangesFrom, List.getElem_cons_succ, List.take_succ_cons, List.flatten_cons, List.length_append]
      rw [ih]
      simp only [Nat.add_assoc]

theorem rangesFrom_end {α : Type} (s : Nat) (bs : List (List α)) :
    ∀ r ∈ rangesFrom s bs, r.1.2 = r.1.1 + r.2.length := by
  induction bs generalizing s with
  | nil => simp [rangesFrom]
  | cons b bs ih => simpa only [rangesFrom, List.mem_cons, forall_eq_or_imp, true_and] using ih _

theorem rangesFrom_consecutive {α : Type} (s : Nat) (bs : List (List α)) (i : Nat)
    (h : i + 1 < (rangesFrom s bs).length) : (rangesFrom s bs)[i + 1].1.1 = (rangesFrom s bs)[i].1.2 := by
  rw [rangesFrom_getElem, rangesFrom_getElem]

theorem rangesFrom_head {α : Type} (s : Nat) (bs : List (List α)) (r : (Nat × Nat) × List α)
    (h : (rangesFrom s bs).head? = some r) : r.1.1 = s := by
  cases bs with
  | nil => cases h
  | cons b bs => cases h; rfl

theorem rangesFrom_getLast {α : Type} (s : Nat) (bs : List (List α)) (r : (Nat × Nat) × List α)
    (h : (rangesFrom s bs).getLast? = some r) : r.1.2 = s + bs.flatten.length := by
  rw [List.getLast?_eq_getElem?] at h
  obtain ⟨h0, rfl⟩ := List.getElem?_eq_some_iff.mp h
  rw [rangesFrom_getElem]
  show s + (bs.take ((rangesFrom s bs).length - 1 + 1)).flatten.length = _
  rw [Nat.sub_add_cancel (by omega), rangesFrom_length, List.take_length]

/-! ## fingerprints of a list of SMILES -/

/-- numbers kept by `P` and elements kept by `Q`: when `P` at a position says what `Q` says of the element there,
filtering the numbered list by `P` is filtering the list by `Q` -/
theorem filter_zipIdx_map {α β : Type} (g : α → β) (P : Nat → Bool) (Q : α → Bool) :
    ∀ (l : List α) (k : Nat), (∀ i (h : i < l.length), P (k + i) = Q l[i]) →
      (((l.map g).zipIdx k).filter (fun p => P p.2)).map (·.1) = (l.filter Q).map g := by
  intro l
  induction l with
  | nil => intros; rfl
  | cons a l ih =>
    intro k h
    have h0 : P k = Q a := h 0 (by simp)
    have ih' := ih (k + 1) (fun i hi => by
      have := h (i + 1) (by simp; omega)
      simpa [Nat.add_assoc, Nat.add_comm 1 i] using this)
    simp only [List.map_cons, List.zipIdx_cons, List.filter_cons, h0]
    cases Q a <;> simp [ih']

theorem nonzero_map (fp : String → Option Row) (l : List String) :
    nonzero (l.map (fun s => (fp s).isNone)) = invalidIdxs fp l := by
  simp only [nonzero, invalidIdxs, List.zipIdx_map, List.filter_map, List.map_map]
  rfl

theorem mem_nonzero {mask : List Bool} {i : Nat} : i ∈ nonzero mask ↔ mask[i]? = some true := by
  simp [nonzero, List.mem_zipIdx_iff_getElem?]

theorem deleteIdxs_nonzero {α : Type} (rows : List α) (mask : List Bool) (h : rows.length = mask.length) :
    deleteIdxs rows (nonzero mask) = deleteMask rows mask := by
  have := filter_zipIdx_map Prod.fst (fun i => !(nonzero mask).contains i) (fun p : α × Bool => !p.2)
    (rows.zip mask) 0 (by
      intro i hi
      have hm : i < mask.length := by simp at hi; omega
      rw [Nat.zero_add, List.getElem_zip]
      cases hb : mask[i] <;> simp [mem_nonzero, hb, List.getElem?_eq_getElem hm])
  rwa [List.map_fst_zip (by omega)] at this

theorem deleteMask_map (fp : String → Option Row) (l : List String) :
    deleteMask (l.map (slot fp)) (l.map (fun s => (fp s).isNone)) = l.filterMap fp := by
  unfold deleteMask
  induction l with
  | nil => rfl
  | cons s l ih =>
    simp only [List.map_cons, List.zip_cons_cons, List.filter_cons, List.filterMap_cons]
    cases h : fp s <;> simp [ih, slot, h]

theorem mem_invalidIdxs {fp : String → Option Row} {smiles : List String} {i : Nat} :
    i ∈ invalidIdxs fp smiles ↔ ∃ h : i < smiles.length, fp smiles[i] = none := by
  rw [← nonzero_map, mem_nonzero]
  simp [List.getElem?_eq_some_iff]

theorem invalidIdxs_sorted (fp : String → Option Row) (smiles : List String) :
    (invalidIdxs fp smiles).Pairwise (· < ·) := by
  unfold invalidIdxs
  have hs : ((smiles.zipIdx.filter (fun p => (fp p.1).isNone)).map (·.2)).Sublist (smiles.zipIdx.map (·.2)) :=
    List.filter_sublist.map _
  have : smiles.zipIdx.map (·.2) = List.range' 0 smiles.length := List.zipIdx_map_snd 0 smiles
  rw [this] at hs
  exact List.Pairwise.sublist hs (List.pairwise_lt_range' 1)

theorem fpsFromSmiles_fst (fp : String → Option Row) (smiles : List String) :
    (fpsFromSmiles fp smiles).1 = smiles.filterMap fp := by
  unfold fpsFromSmiles
  simp only
  rw [← nonzero_map, deleteIdxs_nonzero _ _ (by simp), deleteMask_map]

theorem fpsFromSmiles_snd (fp : String → Option Row) (smiles : List String) :
    (fpsFromSmiles fp smiles).2 = invalidIdxs fp smiles := rfl

/-! ## `bb fps-from-smiles`: the part files -/

theorem zfill_name_lt (pre post : String) (d i j : Nat) (h : i < j) (hj : j < 10 ^ d) :
    pre ++ zfill d i ++ post < pre ++ zfill d j ++ post := by
  have hz : 0 < d := by
    rcases Nat.eq_zero_or_pos d with rfl | hz
    · simp at hj; omega
    · exact hz
  rw [str_lt_iff]
  simp only [String.toList_append, List.append_assoc]
  rw [append_lt_append_left_iff, append_lt_append_right_iff]
  · exact (str_lt_iff _ _).mp (zfill_lt i j d h hj)
  · rw [String.length_toList, String.length_toList, zfill_length d i hz (by omega), zfill_length d j hz hj]

theorem range'_map_pairwise_lt (f : Nat → String) (n : Nat)
    (hf : ∀ i j, i < j → j < n → f i < f j) : ((List.range' 0 n).map f).Pairwise (· < ·) := by
  rw [List.pairwise_map]
  refine List.Pairwise.imp_of_mem ?_ (List.pairwise_lt_range' (s := 0) (n := n) 1)
  intro a b _ hb hab
  have : b < n := by simpa using (List.mem_range'_1.mp hb).2
  exact hf a b hab this

theorem mergeFiles_of_pairwise {α : Type} (files : List (String × List α))
    (h : (files.map (·.1)).Pairwise (· < ·)) : mergeFiles files = (files.map (·.2)).flatten := by
  unfold mergeFiles
  rw [List.mergeSort_of_pairwise]
  · rw [List.flatMap_def]
  · rw [List.pairwise_map] at h
    exact h.imp (fun hab => by simpa using str_le_of_lt hab)

theorem map_zipIdx_fst {α β : Type} (f : α → β) (l : List α) (k : Nat) :
    (l.zipIdx k).map (fun p => f p.1) = l.map f := by
  rw [show (fun p : α × Nat => f p.1) = f ∘ Prod.fst from rfl, ← List.map_map, List.zipIdx_map_fst]

theorem map_zipIdx_snd {α β : Type} (f : Nat → β) (l : List α) (k : Nat) :
    (l.zipIdx k).map (fun p => f p.2) = (List.range' k l.length).map f := by
  rw [show (fun p : α × Nat => f p.2) = f ∘ Prod.snd from rfl, ← List.map_map, List.zipIdx_map_snd]

theorem partFiles_eq (fp : String → Option Row) (smiles : List String) (per : Nat) (digits : Option Nat)
    (out : String) :
    partFiles fp smiles per digits out
      = (batched per smiles).zipIdx.map (fun p => (partName out digits p.2, p.1.filterMap fp)) := by
  simp only [partFiles, idxBatches, createFile, List.map_map, fpsFromSmiles_fst, Function.comp_def]

/-- with enough digits the names are increasing, so merging in sorted-name order is in number order -/
theorem mergeFiles_numbered {α β : Type} (pre post : String) (d : Nat) (g : β → List α) (l : List β)
    (h : l.length ≤ 10 ^ d) :
    ((l.zipIdx.map (fun p => (pre ++ zfill d p.2 ++ post, g p.1))).map (·.1)).Pairwise (· < ·) ∧
    mergeFiles (l.zipIdx.map (fun p => (pre ++ zfill d p.2 ++ post, g p.1))) = (l.map g).flatten := by
  have hp : ((l.zipIdx.map (fun p => (pre ++ zfill d p.2 ++ post, g p.1))).map (·.1)).Pairwise (· < ·) := by
    rw [List.map_map]
    exact map_zipIdx_snd (fun i => pre ++ zfill d i ++ post) l 0 ▸
      range'_map_pairwise_lt _ _ (fun i j hij hj => zfill_name_lt pre post d i j hij (by omega))
  exact ⟨hp, by rw [mergeFiles_of_pairwise _ hp, List.map_map]; exact congrArg _ (map_zipIdx_fst g l 0)⟩

/-! ## the shared-memory branch -/

/-- the element writes of one task -/
def writesOf (task : (Nat × Nat) × List String) : List (Nat × String) :=
  (List.range' task.1.1 (task.1.2 - task.1.1)).zip task.2

/-- one iteration of the filler's loop -/
def write (fp : String → Option Row) (st : Shm) (w : Nat × String) : Shm :=
  match fp w.2 with
  | none => { st with mask := st.mask.set w.1 true }
  | some row => { st with fps := st.fps.set w.1 row }

theorem fillRange_eq (fp : String → Option Row) (st : Shm) (task : (Nat × Nat) × List String) :
    fillRange fp st task = (writesOf task).foldl (write fp) st := rfl

theorem foldl_fillRange (fp : String → Option Row) (tasks : List ((Nat × Nat) × List String)) (st : Shm) :
    tasks.foldl (fillRange fp) st = (tasks.flatMap writesOf).foldl (write fp) st := by
  rw [List.foldl_flatMap]; rfl

/-- values determined by their position: a position that is hit holds `v i`, whatever the order and the
number of hits -/
theorem foldl_set_getElem? {α : Type} (v : Nat → α) : ∀ (U : List (Nat × α)), (∀ u ∈ U, u.2 = v u.1) →
    ∀ (l : List α) (i : Nat), (U.foldl (fun l u => l.set u.1 u.2) l)[i]? =
      if i ∈ U.map (·.1) then (l[i]?).map (fun _ => v i) else l[i]?
  | [], _, l, i => by simp
  | u :: U, hv, l, i => by
    rw [List.foldl_cons, foldl_set_getElem? v U (fun x hx => hv x (List.mem_cons_of_mem _ hx)), List.getElem?_set,
      hv u (by simp)]
    by_cases hi : u.1 = i
    · subst hi
      by_cases hU : u.1 ∈ U.map (·.1) <;> by_cases hl : u.1 < l.length <;> simp [hU, hl]
    · simp only [hi, ↓reduceIte, List.map_cons, List.mem_cons, Ne.symm hi, false_or]

/-- the array after the writes `W` (position, element of `xs`), made in any order and any number of times into an
array that starts as `xs.length` copies of `d`: a write stores `c` of its element, or nothing where `c` is `none`.  If
every write is consistent with `xs` (`hW`) and every position is hit (`hcov`) the array is `xs` under `c`, with `d`
where `c` is `none`.  Used for the fingerprints (`c = fp`, `d = []`) and for the mask of invalid positions. -/
theorem scatter_eq {α : Type} (xs : List String) (W : List (Nat × String))
    (hW : ∀ w ∈ W, xs[w.1]? = some w.2) (hcov : ∀ i, i < xs.length → ∃ w ∈ W, w.1 = i)
    (c : String → Option α) (d : α) :
    (W.filterMap (fun w => (c w.2).map (w.1, ·))).foldl (fun l u => l.set u.1 u.2) (List.replicate xs.length d)
      = xs.map (fun s => (c s).getD d) := by
  apply List.ext_getElem?
  intro i
  rw [foldl_set_getElem? (fun i => (c (xs.getD i "")).getD d) _ (by
    intro u hu
    obtain ⟨w, hw, h⟩ := List.mem_filterMap.mp hu
    obtain ⟨a, ha, rfl⟩ := Option.map_eq_some_iff.mp h
    simp [List.getD_eq_getElem?_getD, hW w hw, ha])]
  by_cases hi : i < xs.length
  · obtain ⟨w, hw, rfl⟩ := hcov i hi
    have hs := hW w hw
    simp only [List.getElem?_map, hs, Option.map_some, List.getElem?_replicate, hi, ↓reduceIte,
      List.getD_eq_getElem?_getD, Option.getD_some]
    split
    · rfl
    · rename_i hnot
      cases hc : c w.2 with
      | none => rfl
      | some a => exact absurd (List.mem_map.mpr ⟨(w.1, a), List.mem_filterMap.mpr ⟨w, hw, by simp [hc]⟩, rfl⟩) hnot
  · rw [List.getElem?_eq_none (l := List.replicate _ _) (by simp only [List.length_replicate]; omega),
      List.getElem?_eq_none (by simp only [List.length_map]; omega)]
    split <;> rfl

theorem foldl_write (fp : String → Option Row) : ∀ (W : List (Nat × String)) (st : Shm),
    W.foldl (write fp) st =
      { fps := (W.filterMap (fun w => (fp w.2).map (w.1, ·))).foldl (fun l u => l.set u.1 u.2) st.fps,
        mask := (W.filterMap (fun w => (if (fp w.2).isNone then some true else none).map (w.1, ·))).foldl
          (fun l u => l.set u.1 u.2) st.mask }
  | [], st => rfl
  | w :: W, st => by
    rw [List.foldl_cons, foldl_write fp W]
    unfold write
    cases h : fp w.2 <;> simp [h]

theorem writesOf_rangesFrom (s : Nat) (bs : List (List String)) :
    (rangesFrom s bs).flatMap writesOf = (bs.flatten.zipIdx s).map (fun p => (p.2, p.1)) := by
  induction bs generalizing s with
  | nil => rfl
  | cons b bs ih =>
    have : writesOf ((s, s + b.length), b) = (b.zipIdx s).map (fun p => (p.2, p.1)) := by
      simp only [writesOf, Nat.add_sub_cancel_left, List.zipIdx_eq_zip_range']
      exact (List.zip_swap _ _).symm
    simp only [rangesFrom, List.flatMap_cons, List.flatten_cons, List.zipIdx_append, List.map_append, ih, this]

/-- any batch sizes, any order, overlaps and repeats allowed -/
theorem runTasks_cover (fp : String → Option Row) (smiles : List String) (tasks : List ((Nat × Nat) × List String))
    (hW : ∀ w ∈ tasks.flatMap writesOf, smiles[w.1]? = some w.2)
    (hcov : ∀ i, i < smiles.length → ∃ w ∈ tasks.flatMap writesOf, w.1 = i) :
    runTasks fp smiles.length tasks = fpsFromSmiles fp smiles := by
  have hf := scatter_eq smiles _ hW hcov fp []
  have hm := (scatter_eq smiles _ hW hcov (fun s => if (fp s).isNone then some true else none) false).trans
    (List.map_congr_left (g := fun s => (fp s).isNone) (fun s _ => by cases fp s <;> rfl))
  unfold runTasks
  simp only [foldl_fillRange, foldl_write]
  rw [hf, hm]
  exact Prod.ext ((deleteMask_map fp smiles).trans (fpsFromSmiles_fst fp smiles).symm) (nonzero_map fp smiles)

theorem runTasks_perm (fp : String → Option Row) (smiles : List String) (per : Nat) (hper : 0 < per)
    (tasks : List ((Nat × Nat) × List String)) (hp : tasks.Perm (rangeBatches per smiles)) :
    runTasks fp smiles.length tasks = fpsFromSmiles fp smiles := by
  have hmem : ∀ w, w ∈ tasks.flatMap writesOf ↔ smiles[w.1]? = some w.2 := by
    rintro ⟨i, s⟩
    rw [(hp.flatMap_right writesOf).mem_iff, rangeBatches, writesOf_rangesFrom, batched_flatten hper]
    simp [List.mem_zipIdx_iff_getElem?]
  exact runTasks_cover fp smiles tasks (fun w hw => (hmem w).mp hw)
    (fun i hi => ⟨(i, smiles[i]), (hmem _).mpr (by simp [hi]), rfl⟩)

/-! ## the file-sequence index -/

/-- the requested indices that fall into `[a, b)` -/
def win (idxs : List Nat) (a b : Nat) : List Nat :=
  idxs.filter (fun x => decide (x < b) && decide (a ≤ x))

/-- the value of `local_file_idxs` -/
def windows (idxs : List Nat) : Nat → List (List Row) → List (List Nat)
  | _, [] => []
  | r, f :: fs => (win idxs r (r + f.length)).map (· - r) :: windows idxs (r + f.length) fs

theorem mem_win {idxs : List Nat} {a b i : Nat} : i ∈ win idxs a b ↔ i ∈ idxs ∧ i < b ∧ a ≤ i := by
  simp only [win, List.mem_filter, Bool.and_eq_true, decide_eq_true_eq]

theorem win_self (idxs : List Nat) (r : Nat) : win idxs r r = [] :=
  List.filter_eq_nil_iff.mpr (fun x _ => by simp)

theorem filter_lt_append_ge {l : List Nat} (hs : l.Pairwise (· ≤ ·)) (b : Nat) :
    l.filter (fun x => decide (x < b)) ++ l.filter (fun x => decide (b ≤ x)) = l := by
  induction l with
  | nil => rfl
  | cons a l ih =>
    obtain ⟨h1, h2⟩ := List.pairwise_cons.mp hs
    by_cases ha : a < b
    · simp [ha, show ¬ b ≤ a by omega, ih h2]
    · have e1 : l.filter (fun x => decide (x < b)) = [] :=
        List.filter_eq_nil_iff.mpr (fun x hx => by have := h1 x hx; simp; omega)
      have e2 : l.filter (fun x => decide (b ≤ x)) = l :=
        List.filter_eq_self.mpr (fun x hx => by have := h1 x hx; simp; omega)
      simp [ha, show b ≤ a by omega, e1, e2]

theorem win_append {idxs : List Nat} (hs : idxs.Pairwise (· ≤ ·)) {a b c : Nat} (hab : a ≤ b) (hbc : b ≤ c) :
    win idxs a b ++ win idxs b c = win idxs a c := by
  have := filter_lt_append_ge (hs.sublist (List.filter_sublist (p := fun x => decide (x < c) && decide (a ≤ x)))) b
  unfold win
  rw [← this, List.filter_filter, List.filter_filter]
  congr 1 <;> apply List.filter_congr <;> intro x _ <;> rw [Bool.eq_iff_iff] <;>
    simp only [Bool.and_eq_true, decide_eq_true_eq] <;> omega

/-- the invariant of the loop: the indices not yet consumed are those from `running` on -/
theorem seqStep_eq {idxs : List Nat} (hs : idxs.Pairwise (· ≤ ·)) (st : SeqSt) (f : List Row)
    (hc : idxs.drop st.consumed = idxs.filter (fun x => decide (st.running ≤ x))) :
    (seqStep idxs st f).localIdxs
        = st.localIdxs ++ [(win idxs st.running (st.running + f.length)).map (· - st.running)] ∧
      (seqStep idxs st f).running = st.running + f.length ∧
      idxs.drop (seqStep idxs st f).consumed = idxs.filter (fun x => decide (st.running + f.length ≤ x)) := by
  have hw : (idxs.drop st.consumed).filter (fun x => decide (x < st.running + f.length))
      = win idxs st.running (st.running + f.length) := by
    rw [hc, List.filter_filter]; rfl
  refine ⟨by simp only [seqStep, hw], rfl, ?_⟩
  simp only [seqStep, hw]
  have hp := filter_lt_append_ge (hs.sublist (List.filter_sublist (p := fun x => decide (st.running ≤ x))))
    (st.running + f.length)
  rw [List.filter_filter, List.filter_filter] at hp
  rw [← List.drop_drop, hc, ← hp]
  refine (List.drop_left (l₁ := win idxs _ _)).trans (List.filter_congr fun x _ => ?_)
  rw [Bool.eq_iff_iff]
  simp only [Bool.and_eq_true, decide_eq_true_eq]
  omega

theorem foldl_seqStep {idxs : List Nat} (hs : idxs.Pairwise (· ≤ ·)) (fs : List (List Row)) :
    ∀ st : SeqSt, idxs.drop st.consumed = idxs.filter (fun x => decide (st.running ≤ x)) →
      (fs.foldl (seqStep idxs) st).localIdxs = st.localIdxs ++ windows idxs st.running fs := by
  induction fs with
  | nil => intro st _; simp [windows]
  | cons f fs ih =>
    intro st hc
    obtain ⟨h1, h2, h3⟩ := seqStep_eq hs st f hc
    rw [List.foldl_cons, ih _ (by rw [h2]; exact h3), h1, h2]
    simp [windows]

theorem takeRows_win (idxs : List Nat) (f : List Row) (r : Nat) :
    takeRows f ((win idxs r (r + f.length)).map (· - r))
      = .ok ((win idxs r (r + f.length)).map (fun i => f.getD (i - r) [])) := by
  unfold takeRows
  rw [if_pos]
  · simp [List.map_map, Function.comp_def]
  · simp only [List.all_eq_true, List.mem_map, decide_eq_true_eq]
    rintro j ⟨i, hi, rfl⟩
    have hwin := mem_win.mp hi
    omega

theorem gather_windows {idxs : List Nat} (hs : idxs.Pairwise (· ≤ ·)) (fs : List (List Row)) (r : Nat) :
    ((windows idxs r fs).map List.length).sum = (win idxs r (r + fs.flatten.length)).length ∧
    gather fs (windows idxs r fs)
      = .ok ((win idxs r (r + fs.flatten.length)).map (fun i => fs.flatten.getD (i - r) [])) := by
  induction fs generalizing r with
  | nil => simp [windows, gather, win_self]
  | cons f fs ih =>
    obtain ⟨ih1, ih2⟩ := ih (r + f.length)
    have hw := win_append hs (Nat.le_add_right r f.length) (Nat.le_add_right (r + f.length) fs.flatten.length)
    -- the first window takes its rows from `f`, the others from `fs` (`ih2`); the window of
    -- `f ++ fs.flatten` is the two, one after the other (`hw`)
    simp only [windows, gather, takeRows_win, ih1, ih2, List.map_cons, List.sum_cons, List.length_map,
      List.flatten_cons, List.length_append, ← Nat.add_assoc, ← hw, List.map_append, true_and]
    -- and an index of the first window finds its row in `f`, one of the others in `fs.flatten`
    congr 2 <;> apply List.map_congr_left <;> intro i hi <;> have hwin := mem_win.mp hi
    · rw [List.getD_eq_getElem?_getD, List.getD_eq_getElem?_getD, List.getElem?_append_left (by omega)]
    · rw [List.getD_eq_getElem?_getD, List.getD_eq_getElem?_getD, List.getElem?_append_right (by omega)]
      congr 2; omega

theorem mergeSort_le_eq_iff (idxs : List Nat) :
    idxs.mergeSort (fun a b => decide (a ≤ b)) = idxs ↔ idxs.Pairwise (· ≤ ·) := by
  constructor
  · intro h
    have := List.pairwise_mergeSort (le := fun a b : Nat => decide (a ≤ b))
      (fun a b c h1 h2 => by simp at *; omega) (fun a b => by simp; omega) idxs
    rw [h] at this
    exact this.imp (by simp)
  · intro h
    exact List.mergeSort_of_pairwise (h.imp (by simp))

/-- `_get_fingerprints_from_file_seq` in closed form -/
theorem fileSeqIndex_eq (files : List (List Row)) (idxs : List Nat) :
    fileSeqIndex files idxs =
      if idxs.Pairwise (· ≤ ·) ∧ ∀ i ∈ idxs, i < files.flatten.length then
        .ok (idxs.map (fun i => files.flatten.getD i []))
      else .error .value := by
  unfold fileSeqIndex
  by_cases hs : idxs.Pairwise (· ≤ ·)
  · obtain ⟨h1, h2⟩ := gather_windows hs files 0
    have hf := foldl_seqStep hs files { localIdxs := [], consumed := 0, running := 0 } (by simp)
    -- sorted indices are not re-sorted; the loop computes the windows (`hf`); gathering them gives the rows
    -- at the indices inside the files (`h2`), as many as there are such indices (`h1`)
    simp only [(mergeSort_le_eq_iff idxs).mpr hs, bne_self_eq_false, Bool.false_eq_true, if_false, hf,
      List.nil_append, h1, h2, Nat.zero_add, Nat.sub_zero, hs, true_and]
    by_cases hb : ∀ i ∈ idxs, i < files.flatten.length
    · rw [show win idxs 0 files.flatten.length = idxs from
        List.filter_eq_self.mpr (fun x hx => by simpa using hb x hx)]
      simp only [bne_self_eq_false, Bool.false_eq_true, if_false, if_pos hb]
    · have : idxs.length ≠ (win idxs 0 files.flatten.length).length := fun h =>
        hb (fun i hi => by simpa using List.length_filter_eq_length_iff.mp h.symm i hi)
      rw [if_pos (bne_iff_ne.mpr this), if_neg hb]
  · rw [if_pos (by simpa using mt (mergeSort_le_eq_iff idxs).mp hs), if_neg (fun h => hs h.1)]

end BB.Files
