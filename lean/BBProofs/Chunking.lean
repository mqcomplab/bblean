/-
Cutting one `fit` call into two consecutive calls does not change anything: both sides are
`Est.grow`s, and `grow` after `grow` is `grow` of the concatenation.
-/
import BBProofs.Grow

namespace BB

theorem fitGood_none {F : Nat} {e : Est} (hlo : e.st.isLeavesOnly = false) (rows : List Row) :
    fitGood F e rows none = goodPrefix F ((List.range' e.numFitted rows.length).zip rows) := by
  simp [fitGood, hlo, fitLabelled]

theorem fit_chunking_gen (P : Policy) (e : Est) (xs ys : List Row) (F : Nat)
    (hF : ∀ r0, xs.head? = some r0 → (e.st.F?).getD r0.length = F) (hall : ∀ r ∈ xs, r.length = F)
    (hx : xs ≠ []) :
    (fit P (fit P e xs none).1 ys none).1 = (fit P e (xs ++ ys) none).1 := by
  cases hlo : e.st.isLeavesOnly with
  | true => rw [fit_leavesOnly P _ _ _ hlo, fit_leavesOnly P _ _ _ hlo, fit_leavesOnly P _ _ _ hlo]
  | false =>
    have hok : ∀ p ∈ (List.range' e.numFitted xs.length).zip xs, rowOk F p.2 = true := fun p hp => by
      simp [rowOk, hall _ (List.of_mem_zip hp).2]
    have hgood : fitGood F e xs none = (List.range' e.numFitted xs.length).zip xs := fitGood_all none hlo hall
    obtain ⟨x0, xs', rfl⟩ := List.exists_cons_of_ne_nil hx
    have h1 := fit_grow P F e (x0 :: xs') none hF
    rw [hgood] at h1
    generalize hus : ((List.range' e.numFitted (x0 :: xs').length).zip (x0 :: xs')).map
      (fun p => Clu.ofRow p.2 p.1) = us at h1
    have hlo1 : (e.grow P F us).st.isLeavesOnly = false :=
      insertAll_isLeavesOnly P _ F hlo _
    have hF1 : (e.grow P F us).st.F? = some F := by
      rw [Est.grow, insertAll_F P _ _ hlo, if_neg (by simp [← hus, List.range'_succ]), ← hF x0 rfl]
      cases e.st.F? <;> simp [hall x0 (by simp)]
    have hn : (e.grow P F us).numFitted = e.numFitted + (x0 :: xs').length := by
      rw [← hus, grow_ofRow_numFitted, List.length_zip, List.length_range', Nat.min_self]
    rw [h1, fit_grow P F _ ys none (fun _ _ => by rw [hF1]; rfl), grow_grow,
      fit_grow P F e (x0 :: xs' ++ ys) none (fun r0 h => hF r0 h), fitGood_none hlo1, fitGood_none hlo, hn,
      ← hus, ← List.map_append, List.length_append, ← List.range'_append_1, List.zip_append (by simp)]
    simp only [goodPrefix]
    rw [List.takeWhile_append_of_pos hok]

variable (pol : Cfg → Policy)

theorem fit_chunking (hpol : ∀ cfg, (pol cfg).Valid) (e : Est) (hbf : 1 ≤ e.cfg.bf) (hok : e.st.OK)
    (xs ys : List Row) (F : Nat) (hF : ∀ r0, xs.head? = some r0 → (e.st.F?).getD r0.length = F)
    (hall : ∀ r ∈ xs, r.length = F) (hx : xs ≠ []) :
    (fit (pol e.cfg) (fit (pol e.cfg) e xs none).1 ys none).1 = (fit (pol e.cfg) e (xs ++ ys) none).1 :=
  fit_chunking_gen (pol e.cfg) e xs ys F hF hall hx

end BB
