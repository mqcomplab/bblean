/-
Safety of the page-release schedule of `_ArrayMemPagesManager` (model: `BBModel/MemPages.lean`).

Closed form of the schedule (`releases_spec`), and from it: every `madvise` range is safe
(`releases_safe`, the six facts by name in `Release.Safe`); consecutive ranges are adjacent
(`releases_disjoint`), hence no byte is released twice (`releases_pairwise`).
-/
import BBModel.MemPages

namespace BB.Pages

/-- The loop in closed form, from any intermediate state: starting with `k` rows consumed and
`n` rows to come, it fires once per multiple of `iters` in `(k, k + n]`. -/
theorem loop_spec (p : Params) :
    ∀ (n k addr : Nat), loop p n k addr =
      (List.range ((k + n) / p.iters - k / p.iters)).map
        (fun j => (⟨addr + j * p.P, p.P, (k / p.iters + 1 + j) * p.iters⟩ : Release)) := by
  intro n
  induction n with
  | zero => intro k addr; simp [loop]
  | succ n ih =>
    intro k addr
    have hmono : (k + 1) / p.iters ≤ (k + 1 + n) / p.iters :=
      Nat.div_le_div_right (Nat.le_add_right _ _)
    have hassoc : k + (n + 1) = k + 1 + n := by omega
    by_cases h : (k + 1) % p.iters = 0
    · have hd : (k + 1) / p.iters = k / p.iters + 1 := Nat.succ_div_of_mod_eq_zero h
      have hk : (k / p.iters + 1) * p.iters = k + 1 := by
        rw [← hd]; exact Nat.div_mul_cancel (Nat.dvd_of_mod_eq_zero h)
      have hcnt : (k + (n + 1)) / p.iters - k / p.iters
          = ((k + 1 + n) / p.iters - (k + 1) / p.iters) + 1 := by
        rw [hassoc]; omega
      rw [hcnt, List.range_succ_eq_map, List.map_cons, List.map_map]
      simp only [loop, h, beq_self_eq_true, if_true]
      rw [ih (k + 1) (addr + p.P), hd]
      congr 1
      · simp [hk]
      · apply List.map_congr_left
        intro j _
        simp only [Function.comp, Release.mk.injEq]
        refine ⟨?_, trivial, ?_⟩
        · rw [Nat.succ_mul]; omega
        · congr 1; omega
    · have hd : (k + 1) / p.iters = k / p.iters := by
        rw [Nat.succ_div_of_mod_ne_zero h]
      have hcnt : (k + (n + 1)) / p.iters - k / p.iters
          = (k + 1 + n) / p.iters - (k + 1) / p.iters := by
        rw [hassoc, hd]
      simp only [loop, beq_iff_eq, h, if_false]
      rw [ih (k + 1) addr, hcnt, hd]

theorem canRelease_iff (p : Params) :
    p.canRelease = true ↔ p.ncols ≠ 0 ∧ p.P % p.ncols = 0 ∧ p.offset < p.ncols := by
  simp [Params.canRelease, and_assoc]

/-- the division in `iters_per_pagex = int(pagesizex / ncols)` is exact -/
theorem iters_mul_ncols (p : Params) (hc : p.canRelease = true) : p.iters * p.ncols = p.P := by
  obtain ⟨_, h, _⟩ := (canRelease_iff p).1 hc
  exact Nat.div_mul_cancel (Nat.dvd_of_mod_eq_zero h)

/-- otherwise `P = iters * ncols` would be 0 -/
theorem iters_pos (p : Params) (hc : p.canRelease = true) (hP : 0 < p.P) : 0 < p.iters := by
  have h := iters_mul_ncols p hc
  rcases Nat.eq_zero_or_pos p.iters with h0 | h0
  · rw [h0, Nat.zero_mul] at h; omega
  · exact h0

theorem releases_spec (p : Params) (hc : p.canRelease = true) :
    releases p = (List.range (p.nrows / p.iters)).map
      (fun j => (⟨p.base + j * p.P, p.P, (j + 1) * p.iters⟩ : Release)) := by
  unfold releases
  rw [if_pos hc, loop_spec]
  simp only [Nat.zero_add, Nat.zero_div, Nat.sub_zero]
  apply List.map_congr_left
  intro j _
  simp only [Release.mk.injEq, true_and]
  congr 1; omega

theorem releases_none (p : Params) (h : p.canRelease = false) : releases p = [] := by
  simp [releases, h]

theorem releases_length (p : Params) (hc : p.canRelease = true) :
    (releases p).length = p.nrows / p.iters := by
  simp [releases_spec p hc]

theorem releases_getElem (p : Params) (hc : p.canRelease = true) (j : Nat)
    (hj : j < (releases p).length) :
    (releases p)[j] = ⟨p.base + j * p.P, p.P, (j + 1) * p.iters⟩ := by
  simp [releases_spec p hc]

/-- what makes the `madvise` call `r` safe -/
structure Release.Safe (p : Params) (r : Release) : Prop where
  base_le : p.base ≤ r.addr
  len_eq : r.len = p.P
  aligned : (r.addr - p.base) % p.P = 0
  /-- the bytes of rows `1..afterRow` end at `base + offset + afterRow * rowBytes`: the range lies
  behind the read cursor -/
  behind : r.addr + r.len ≤ p.base + p.offset + r.afterRow * p.rowBytes
  rows : r.afterRow ≤ p.nrows
  inside : r.addr + r.len ≤ p.base + p.fileSize

theorem releases_safe (p : Params) (hc : p.canRelease = true) (hi : 1 ≤ p.itemsize)
    (hP : 0 < p.P) : ∀ r ∈ releases p, r.Safe p := by
  intro r hr
  rw [releases_spec p hc, List.mem_map] at hr
  obtain ⟨j, hj, rfl⟩ := hr
  rw [List.mem_range] at hj
  have hI := iters_pos p hc hP
  have hmul := iters_mul_ncols p hc
  have hrow : (j + 1) * p.iters ≤ p.nrows := (Nat.le_div_iff_mul_le hI).1 hj
  -- bytes released so far = (j+1) * P = rows * ncols ≤ rows * rowBytes
  have hbytes : (j + 1) * p.P ≤ (j + 1) * p.iters * p.rowBytes := by
    rw [← hmul, Nat.mul_assoc]
    apply Nat.mul_le_mul_left
    apply Nat.mul_le_mul_left
    unfold Params.rowBytes
    exact Nat.le_mul_of_pos_right _ hi
  have hfile : (j + 1) * p.iters * p.rowBytes ≤ p.nrows * p.rowBytes :=
    Nat.mul_le_mul_right _ hrow
  have hsucc : (j + 1) * p.P = j * p.P + p.P := Nat.succ_mul j p.P
  refine ⟨Nat.le_add_right _ _, rfl, ?_, ?_, hrow, ?_⟩
  · show (p.base + j * p.P - p.base) % p.P = 0
    rw [Nat.add_sub_cancel_left]; exact Nat.mul_mod_left _ _
  · show p.base + j * p.P + p.P ≤ p.base + p.offset + (j + 1) * p.iters * p.rowBytes
    omega
  · show p.base + j * p.P + p.P ≤ p.base + p.fileSize
    unfold Params.fileSize
    omega

/-- consecutive releases are adjacent: the next one starts exactly where the previous ends -/
theorem releases_disjoint (p : Params) (hc : p.canRelease = true) (j : Nat)
    (hj : j + 1 < (releases p).length) :
    (releases p)[j + 1].addr = (releases p)[j].addr + p.P ∧
    (releases p)[j + 1].addr = (releases p)[j].addr + (releases p)[j].len := by
  rw [releases_getElem p hc (j + 1) hj, releases_getElem p hc j (by omega)]
  simp only [and_self]
  rw [Nat.succ_mul]; omega

theorem releases_pairwise (p : Params) (hc : p.canRelease = true) :
    (releases p).Pairwise (fun a b => a.addr + a.len ≤ b.addr) := by
  rw [releases_spec p hc, List.pairwise_map]
  apply List.Pairwise.imp _ List.pairwise_lt_range
  intro a b hab
  show p.base + a * p.P + p.P ≤ p.base + b * p.P
  have h : (a + 1) * p.P ≤ b * p.P := Nat.mul_le_mul_right _ hab
  rw [Nat.succ_mul] at h
  omega

/-- what is left unreleased at the end: fewer than `P` bytes of
consumed rows plus the header are still resident when the loop ends (for `itemsize = 1`) -/
theorem releases_count (p : Params) (hc : p.canRelease = true) (hP : 0 < p.P) :
    (releases p).length * p.P ≤ p.nrows * p.ncols ∧
    p.nrows * p.ncols < ((releases p).length + 1) * p.P := by
  have hI : 0 < p.iters := iters_pos p hc hP
  obtain ⟨h0, _, _⟩ := (canRelease_iff p).1 hc
  have h0 : 0 < p.ncols := Nat.pos_of_ne_zero h0
  rw [releases_length p hc, ← iters_mul_ncols p hc, ← Nat.mul_assoc, ← Nat.mul_assoc]
  constructor
  · exact Nat.mul_le_mul_right _ (Nat.div_mul_le_self _ _)
  · apply Nat.mul_lt_mul_of_pos_right _ h0
    rw [Nat.mul_comm]
    exact Nat.lt_mul_div_succ _ hI

/-- 20000 packed 2048-bit fingerprints (256 bytes per row), 128-byte `.npy` header, 4 KiB
pages: two releases of 2 MiB each, after rows 8192 and 16384.  `base` is some page-aligned
address, as `mmap` returns them. -/
def ex1 : Params :=
  { base := 4096 * 34359738, offset := 128, ncols := 256, itemsize := 1, P := 2097152,
    nrows := 20000 }

example : ex1.canRelease = true ∧ 1 ≤ ex1.itemsize ∧ 0 < ex1.P := by decide

example : releases ex1 =
    [⟨4096 * 34359738, 2097152, 8192⟩, ⟨4096 * 34359738 + 2097152, 2097152, 16384⟩] := by
  rw [releases_spec ex1 (by decide)]
  decide

example : ∀ r ∈ releases ex1, r.addr + r.len ≤ ex1.base + ex1.fileSize ∧
    r.addr + r.len ≤ ex1.base + ex1.offset + r.afterRow * ex1.rowBytes :=
  fun r hr =>
    let h := releases_safe ex1 (by decide) (by decide) (by decide) r hr
    ⟨h.inside, h.behind⟩

/-- small numbers, evaluated through the loop itself -/
def ex2 : Params := { base := 1024, offset := 10, ncols := 16, itemsize := 2, P := 64, nrows := 13 }

example : releases ex2 = [⟨1024, 64, 4⟩, ⟨1088, 64, 8⟩, ⟨1152, 64, 12⟩] := by decide

example : ∀ r ∈ releases ex2, r.addr + r.len ≤ ex2.base + ex2.offset + r.afterRow * ex2.rowBytes :=
  fun r hr => (releases_safe ex2 (by decide) (by decide) (by decide) r hr).behind

/-- the guard is off: `offset ≥ ncols` -/
example : releases { ex2 with offset := 16 } = [] := releases_none _ (by decide)

end BB.Pages
