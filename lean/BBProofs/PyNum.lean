/-
Evaluation equations for the value algebra `BB.PV`: what each operation of PyNum.lean computes on
constructor forms.  They carry the attribute `pv` (and no other), so that a generated function is evaluated by
`simp only [BBGen.f, pv]` together with the facts the particular proof uses.  An equation with a side condition is
tagged `pv` only when `pv` itself discharges the condition on the forms that occur (`listAppend_int`: `0 ≤ i` for a
literal or a cast); the others (`setLast_concat`, `npDot_arr`, `getAt_nat`, …) are passed to `simp only` with their
hypothesis.  The definitions of PyNum.lean are unfolded here and nowhere else.

Names are `<operation>_<forms of the arguments>`: `_int`, `_flt`, `_uns`, `_arr`, `_str` … for a constructor, `_nat` for the
`int` of a natural.  They live in `BB.PV` with the operation; in `BB` are the `isNone_*` family with the option encodings
`optRatPV` / `optNatPV`, `getAt_nat` / `setAt_nat`, `lenStr_nat`, and the facts that mention no `PV` (`wrap_u64`, `map_wrap_u64`,
`wrapInt_*`, `ne_path_of_no_slash`).
-/
import BBModel.PyNum
import BBModel.Similarity
import BBProofs.Fl
import BBProofs.PVAttr

namespace BB
namespace PV

attribute [pv] List.getD_cons_zero List.getD_cons_succ List.getD_nil List.nil_append List.cons_append List.append_assoc
  Int.toNat_natCast Int.natCast_nonneg Bool.not_true Bool.not_false Bool.true_and Bool.false_and Bool.and_true
  Bool.and_false Bool.false_eq_true if_true if_false decide_true decide_false Option.map_some Option.map_none
  Option.isNone_some Option.isNone_none Option.isSome_some Option.isSome_none Option.bind_some Option.bind_none
  Int.cast_zero Int.cast_one rnd_zero rnd_one

-- `simp only` runs no simproc it is not given: these five evaluate the integer literals of the generated code
-- (`0 ≤ 1`, `(3).toNat`, `k + 1` …)
attribute [pv_proc] Int.reduceLE Int.reduceLT Int.reduceToNat Int.reduceAdd Int.reduceSub

@[pv] theorem ite_bool (b : Bool) (t e : PV) : PV.ite (PV.bool b) t e = if b then t else e := by
  cases b <;> rfl

@[pv] theorem iteL_bool (b : Bool) (t e : List PV) : PV.iteL (PV.bool b) t e = if b then t else e := by
  cases b <;> rfl

@[pv] theorem iteLS_bool (b : Bool) (st t e : List PV) : PV.iteLS (PV.bool b) st t e = if b then t else e := by
  cases b <;> rfl

@[pv] theorem guardL_int (i : Int) (st k : List PV) : PV.guardL (PV.int i) st k = k := rfl
@[pv] theorem guardL_bool (b : Bool) (st k : List PV) : PV.guardL (PV.bool b) st k = k := rfl
@[pv] theorem guardL_flt (x : Option Rat) (st k : List PV) : PV.guardL (PV.flt x) st k = k := rfl
@[pv] theorem guardL_arr (w : W) (xs : List Nat) (st k : List PV) : PV.guardL (PV.arr w xs) st k = k := rfl
@[pv] theorem guardL_obj (c : String) (x y z : PV) (st k : List PV) : PV.guardL (PV.obj c x y z) st k = k := rfl
@[pv] theorem guardL_none (st k : List PV) : PV.guardL PV.pynone st k = k := rfl
@[pv] theorem guardL_str (s : String) (st k : List PV) : PV.guardL (PV.str s) st k = k := rfl
@[pv] theorem guardL_err (e : String) (st k : List PV) : PV.guardL (PV.err e) st k = PV.err e :: st := rfl

-- `isNone` and the option encodings are named in `BB`, not `BB.PV`: property statements use `BB.optRatPV`, `BB.isNone_flt`, …
@[pv] theorem _root_.BB.isNone_flt (x : Option Rat) : PV.isNone (PV.flt x) = PV.bool false := rfl
@[pv] theorem _root_.BB.isNone_int (i : Int) : PV.isNone (PV.int i) = PV.bool false := rfl
@[pv] theorem _root_.BB.isNone_str (s : String) : PV.isNone (PV.str s) = PV.bool false := rfl
@[pv] theorem _root_.BB.isNone_arr (w : W) (xs : List Nat) : PV.isNone (PV.arr w xs) = PV.bool false := rfl
@[pv] theorem _root_.BB.isNone_obj (c : String) (x y z : PV) : PV.isNone (PV.obj c x y z) = PV.bool false := rfl
@[pv] theorem _root_.BB.isNone_bool (b : Bool) : PV.isNone (PV.bool b) = PV.bool false := rfl
@[pv] theorem _root_.BB.isNone_uns (w : W) (n : Nat) : PV.isNone (PV.uns w n) = PV.bool false := rfl
@[pv] theorem _root_.BB.isNone_barr (xs : List Bool) : PV.isNone (PV.barr xs) = PV.bool false := rfl
@[pv] theorem _root_.BB.isNone_dtype (w : Option W) : PV.isNone (PV.dtype w) = PV.bool false := rfl
@[pv] theorem _root_.BB.isNone_none : PV.isNone PV.pynone = PV.bool true := rfl

/-- an optional float / count argument as a Python value -/
def _root_.BB.optRatPV : Option Rat → PV
  | none => PV.pynone
  | some t => PV.flt (some t)

def _root_.BB.optNatPV : Option Nat → PV
  | none => PV.pynone
  | some n => PV.int n

@[pv] theorem _root_.BB.isNone_optRat (t : Option Rat) : PV.isNone (optRatPV t) = PV.bool t.isNone := by cases t <;> rfl
@[pv] theorem _root_.BB.isNone_optNat (t : Option Nat) : PV.isNone (optNatPV t) = PV.bool t.isNone := by cases t <;> rfl
@[pv] theorem _root_.BB.guardL_optRat_some (t : Rat) (st k : List PV) : PV.guardL (optRatPV (some t)) st k = k := rfl
@[pv] theorem _root_.BB.guardL_optNat_some (n : Nat) (st k : List PV) : PV.guardL (optNatPV (some n)) st k = k := rfl

@[pv] theorem or_bool_bool (a b : Bool) : PV.or (PV.bool a) (PV.bool b) = PV.bool (a || b) := by
  cases a <;> cases b <;> rfl

@[pv] theorem and_bool_bool (a b : Bool) : PV.and (PV.bool a) (PV.bool b) = PV.bool (a && b) := by
  cases a <;> cases b <;> rfl

@[pv] theorem not_bool (a : Bool) : PV.not (PV.bool a) = PV.bool (!a) := rfl
@[pv] theorem truthy_bool (b : Bool) : PV.truthy (PV.bool b) = b := rfl
@[pv] theorem and_false_l (x : PV) : PV.and (PV.bool false) x = PV.bool false := rfl
@[pv] theorem and_true_l (x : PV) : PV.and (PV.bool true) x = x := rfl
@[pv] theorem not_list (xs : List Nat) : PV.not (PV.arr .big xs) = PV.bool xs.isEmpty := by
  simp [PV.not, PV.truthy]

section
variable {α : Type} [LinearOrder α] (a b : α)
theorem compare_beq_lt : (compare a b == .lt) = decide (a < b) := by rw [Bool.eq_iff_iff]; simp [compare_lt_iff_lt]
theorem compare_bne_lt : (compare a b != .lt) = decide (b ≤ a) := by rw [Bool.eq_iff_iff]; simp [compare_ge_iff_ge]
theorem compare_beq_gt : (compare a b == .gt) = decide (b < a) := by rw [Bool.eq_iff_iff]; simp [compare_gt_iff_gt]
theorem compare_bne_gt : (compare a b != .gt) = decide (a ≤ b) := by rw [Bool.eq_iff_iff]; simp [compare_le_iff_le]
theorem compare_beq_eq : (compare a b == .eq) = decide (a = b) := by rw [Bool.eq_iff_iff]; simp
end

theorem ordNeLt_int (a b : Int) : (compare a b != Ordering.lt) = decide (b ≤ a) := compare_bne_lt a b

theorem rel_int_int (r : Ordering → Bool) (a b : Int) : rel r (int a) (int b) = bool (r (compare a b)) := rfl

@[pv] theorem lt_int_int (a b : Int) : PV.lt (PV.int a) (PV.int b) = PV.bool (decide (a < b)) :=
  congrArg bool (compare_beq_lt a b)
@[pv] theorem le_int_int (a b : Int) : PV.le (PV.int a) (PV.int b) = PV.bool (decide (a ≤ b)) :=
  congrArg bool (compare_bne_gt a b)
@[pv] theorem gt_int_int (a b : Int) : PV.gt (PV.int a) (PV.int b) = PV.bool (decide (b < a)) :=
  congrArg bool (compare_beq_gt a b)
@[pv] theorem eq_int_int (a b : Int) : PV.eq (PV.int a) (PV.int b) = PV.bool (decide (a = b)) :=
  congrArg bool (compare_beq_eq a b)
@[pv] theorem ne_int_int (a b : Int) : PV.ne (PV.int a) (PV.int b) = PV.bool (decide (a ≠ b)) := by
  simp [PV.ne, eq_int_int, not_bool]
@[pv] theorem eq_uns_int (w : W) (n : Nat) (b : Int) :
    PV.eq (PV.uns w n) (PV.int b) = PV.bool (decide ((n : Int) = b)) := eq_int_int n b
@[pv] theorem le_uns_int (w : W) (n : Nat) (b : Int) :
    PV.le (PV.uns w n) (PV.int b) = PV.bool (decide ((n : Int) ≤ b)) := le_int_int n b
@[pv] theorem ne_int_uns (i : Int) (w : W) (n : Nat) : PV.ne (PV.int i) (PV.uns w n) = PV.bool (decide (i ≠ (n : Int))) :=
  ne_int_int i n
theorem ge_arr_flt (w : W) (xs : List Nat) (q : Rat) :
    PV.ge (arr w xs) (flt (some q)) = barr (xs.map (fun (k : Nat) => decide (q ≤ rnd (k : Rat)))) := by
  simp only [PV.ge, rel, toNum, cmpNum, Num.toF, ordSat]
  exact congrArg barr (List.map_congr_left fun (k : Nat) _ => compare_bne_lt (rnd (k : Rat)) q)

@[pv] theorem eq_str_str (s t : String) : PV.eq (PV.str s) (PV.str t) = PV.bool (s == t) := rfl

/-! ### floats: an operation with a float operand sees the other operand through its float view -/

/-- float view of a scalar (int, bool, unsigned, float) -/
def toFlt (v : PV) : Option (Option Rat) := (PV.toNum v).map Num.toF

@[pv] theorem toFlt_int (i : Int) : toFlt (PV.int i) = some (some (rnd i)) := rfl
@[pv] theorem toFlt_flt (x : Option Rat) : toFlt (PV.flt x) = some x := rfl
@[pv] theorem toFlt_uns (w : W) (n : Nat) : toFlt (PV.uns w n) = some (some (rnd n)) := rfl

/-- lifted float operation (NaN propagates) -/
def fop (f : Rat → Rat → Rat) : Option Rat → Option Rat → Option Rat
  | some p, some q => some (f p q)
  | _, _ => none

/-- NaN-aware comparison of two floats -/
def fcmp (r : Rat → Rat → Bool) : Option Rat → Option Rat → Bool
  | some p, some q => r p q
  | _, _ => false

@[pv] theorem fop_some_some (f : Rat → Rat → Rat) (p q : Rat) : fop f (some p) (some q) = some (f p q) := rfl
@[pv] theorem fop_none_left (f : Rat → Rat → Rat) (y : Option Rat) : fop f none y = none := rfl
@[pv] theorem fop_none_right (f : Rat → Rat → Rat) (x : Option Rat) : fop f x none = none := by cases x <;> rfl
@[pv] theorem fcmp_some_some (r : Rat → Rat → Bool) (p q : Rat) : fcmp r (some p) (some q) = r p q := rfl
@[pv] theorem fcmp_none_left (r : Rat → Rat → Bool) (y : Option Rat) : fcmp r none y = false := rfl
@[pv] theorem fcmp_none_right (r : Rat → Rat → Bool) (x : Option Rat) : fcmp r x none = false := by cases x <;> rfl

theorem arith_flt_l (fi : Int → Int → Int) (ff : Rat → Rat → Rat) (x : Option Rat) {b : PV}
    {y : Option Rat} (hb : toFlt b = some y) : PV.arith fi ff (PV.flt x) b = PV.flt (fop ff x y) := by
  cases b <;> cases hb <;> rcases x with _ | x <;> first | rfl | (next z => rcases z with _ | z <;> rfl)

theorem arith_flt_r (fi : Int → Int → Int) (ff : Rat → Rat → Rat) {a : PV} (y : Option Rat)
    {x : Option Rat} (ha : toFlt a = some x) : PV.arith fi ff a (PV.flt y) = PV.flt (fop ff x y) := by
  cases a <;> cases ha <;> rcases y with _ | y <;> first | rfl | (next z => rcases z with _ | z <;> rfl)

theorem rel_flt_l (r : Ordering → Bool) (x : Option Rat) {b : PV} {y : Option Rat} (hb : toFlt b = some y) :
    PV.rel r (PV.flt x) b = PV.bool (fcmp (fun p q => r (compare p q)) x y) := by
  cases b <;> cases hb <;> rcases x with _ | x <;> first | rfl | (next z => rcases z with _ | z <;> rfl)

theorem rel_flt_r (r : Ordering → Bool) {a : PV} (y : Option Rat) {x : Option Rat} (ha : toFlt a = some x) :
    PV.rel r a (PV.flt y) = PV.bool (fcmp (fun p q => r (compare p q)) x y) := by
  cases a <;> cases ha <;> rcases y with _ | y <;> first | rfl | (next z => rcases z with _ | z <;> rfl)

theorem sub_flt_r {a : PV} (y : Option Rat) {x : Option Rat} (ha : toFlt a = some x) :
    PV.sub a (PV.flt y) = PV.flt (fop fsub x y) := arith_flt_r _ _ y ha

theorem lt_flt_r {a : PV} (y : Option Rat) {x : Option Rat} (ha : toFlt a = some x) :
    PV.lt a (PV.flt y) = PV.bool (fcmp (fun p q => decide (p < q)) x y) := by
  rw [PV.lt, rel_flt_r _ _ ha]; simp only [compare_beq_lt]

theorem ge_flt_r {a : PV} (y : Option Rat) {x : Option Rat} (ha : toFlt a = some x) :
    PV.ge a (PV.flt y) = PV.bool (fcmp (fun p q => decide (q ≤ p)) x y) := by
  rw [PV.ge, rel_flt_r _ _ ha]; simp only [compare_bne_lt]

theorem gt_flt_r {a : PV} (y : Option Rat) {x : Option Rat} (ha : toFlt a = some x) :
    PV.gt a (PV.flt y) = PV.bool (fcmp (fun p q => decide (q < p)) x y) := by
  rw [PV.gt, rel_flt_r _ _ ha]; simp only [compare_beq_gt]

theorem lt_flt_flt (x y : Option Rat) : PV.lt (PV.flt x) (PV.flt y) = PV.bool (fcmp (fun p q => decide (p < q)) x y) :=
  lt_flt_r y rfl
theorem ge_flt_flt (x y : Option Rat) : PV.ge (PV.flt x) (PV.flt y) = PV.bool (fcmp (fun p q => decide (q ≤ p)) x y) :=
  ge_flt_r y rfl
theorem gt_flt_flt (x y : Option Rat) : PV.gt (PV.flt x) (PV.flt y) = PV.bool (fcmp (fun p q => decide (q < p)) x y) :=
  gt_flt_r y rfl

@[pv] theorem mul_flt_int (x : Option Rat) (i : Int) :
    PV.mul (PV.flt x) (PV.int i) = PV.flt (fop fmul x (some (rnd i))) := arith_flt_l _ _ x rfl
@[pv] theorem mul_flt_flt (x y : Option Rat) : PV.mul (PV.flt x) (PV.flt y) = PV.flt (fop fmul x y) :=
  arith_flt_l _ _ x rfl
@[pv] theorem sub_flt_flt (x y : Option Rat) : PV.sub (PV.flt x) (PV.flt y) = PV.flt (fop fsub x y) :=
  arith_flt_l _ _ x rfl
@[pv] theorem sub_flt_int (x : Option Rat) (i : Int) :
    PV.sub (PV.flt x) (PV.int i) = PV.flt (fop fsub x (some (rnd i))) := arith_flt_l _ _ x rfl
@[pv] theorem add_flt_uns (x : Option Rat) (w : W) (n : Nat) :
    PV.add (PV.flt x) (PV.uns w n) = PV.flt (fop fadd x (some (rnd n))) := arith_flt_l _ _ x rfl
@[pv] theorem sub_flt_uns (x : Option Rat) (w : W) (n : Nat) :
    PV.sub (PV.flt x) (PV.uns w n) = PV.flt (fop fsub x (some (rnd n))) := arith_flt_l _ _ x rfl
@[pv] theorem sub_int_flt (i : Int) (y : Option Rat) :
    PV.sub (PV.int i) (PV.flt y) = PV.flt (fop fsub (some (rnd i)) y) := arith_flt_r _ _ y rfl
@[pv] theorem mul_int_flt (i : Int) (y : Option Rat) :
    PV.mul (PV.int i) (PV.flt y) = PV.flt (fop fmul (some (rnd i)) y) := arith_flt_r _ _ y rfl
@[pv] theorem mul_uns_flt (w : W) (n : Nat) (y : Option Rat) :
    PV.mul (PV.uns w n) (PV.flt y) = PV.flt (fop fmul (some (rnd n)) y) := arith_flt_r _ _ y rfl

@[pv] theorem nan_eq : PV.nan = PV.flt none := rfl
@[pv] theorem neg_flt (x : Option Rat) : PV.neg (PV.flt x) = PV.flt (x.map (fun r => -r)) := rfl
@[pv] theorem exp_flt (expf : Rat → Rat) (x : Option Rat) : PV.exp expf (PV.flt x) = PV.flt (x.map expf) := by
  cases x <;> rfl
@[pv] theorem max2_flt_flt (x y : Rat) : PV.max2 (PV.flt (some x)) (PV.flt (some y)) = PV.flt (some (max x y)) := by
  rw [PV.max2, gt_flt_flt, ite_bool]
  by_cases h : x < y
  · simp only [fcmp, h, decide_true, if_true, max_eq_right h.le]
  · simp only [fcmp, h, decide_false, Bool.false_eq_true, if_false, max_eq_left (not_lt.mp h)]

@[pv] theorem add_int_int (a b : Int) : PV.add (PV.int a) (PV.int b) = PV.int (a + b) := rfl
@[pv] theorem sub_int_int (a b : Int) : PV.sub (PV.int a) (PV.int b) = PV.int (a - b) := rfl
@[pv] theorem mul_int_int (a b : Int) : PV.mul (PV.int a) (PV.int b) = PV.int (a * b) := rfl

@[pv] theorem sub_uns_uns (w v : W) (a b : Nat) :
    PV.sub (PV.uns w a) (PV.uns v b) = PV.uns (wmax w v) (wrapInt (wmax w v) ((a : Int) - b)) := rfl

theorem wmax_self (w : W) : wmax w w = w := if_pos (Nat.le_refl _)

theorem _root_.BB.wrap_u64 (x : Nat) : wrap .u64 x = u64 x := rfl

theorem _root_.BB.map_wrap_u64 (ls : List Nat) (h : ∀ k ∈ ls, k < 2 ^ 64) : ls.map (wrap .u64) = ls := by
  conv_rhs => rw [← List.map_id ls]
  exact List.map_congr_left (fun k hk => Nat.mod_eq_of_lt (h k hk))

theorem _root_.BB.wrapInt_natCast (w : W) (m : Nat) : wrapInt w (m : Int) = m % 2 ^ w.bits := by
  rw [wrapInt, ← Int.natCast_mod, Int.toNat_natCast]

theorem _root_.BB.wrapInt_sub (w : W) (Q S : Nat) (hS : S ≤ 2 ^ w.bits) :
    wrapInt w ((Q : Int) - S) = (Q + 2 ^ w.bits - S) % 2 ^ w.bits := by
  rw [← wrapInt_natCast, wrapInt, wrapInt, Nat.cast_sub (by omega), Nat.cast_add, add_sub_right_comm, Int.add_emod_right]

theorem mul_int_uns (i : Int) (w : W) (n : Nat) (h0 : 0 ≤ i) (h1 : i < (2 ^ w.bits : Nat)) :
    PV.mul (PV.int i) (PV.uns w n) = PV.uns w (wrapInt w (i * n)) := by
  have h1' : i < 2 ^ w.bits := by exact_mod_cast h1
  simp [PV.mul, PV.arith, PV.toNum, h0, h1']

/-! a buffer `xs ++ [v]`: sums followed by the count -/

theorem setInit_concat (w v : W) (xs ys : List Nat) (c : Nat) (h : ys.length = xs.length) :
    PV.setInit (arr w (xs ++ [c])) (arr v ys) = arr w (ys.map (wrap w) ++ [c]) := by
  simp [PV.setInit, h]

theorem iaddInit_concat (w v : W) (xs ys : List Nat) (c : Nat) (h : ys.length = xs.length) :
    PV.iaddInit (arr w (xs ++ [c])) (arr v ys) = arr w (List.zipWith (fun x y => wrap w (x + y)) xs ys ++ [c]) := by
  simp [PV.iaddInit, h]

theorem setLast_concat (w : W) (xs : List Nat) (c n : Nat) (h : n < 2 ^ w.bits) :
    PV.setLast (arr w (xs ++ [c])) (int n) = arr w (xs ++ [n]) := by
  have : (n : Int) < 2 ^ w.bits := by exact_mod_cast h
  simp [PV.setLast, this]

theorem mod_nat (a b : Nat) (hb : 0 < b) : PV.mod (PV.int a) (PV.int b) = PV.int ((a % b : Nat) : Int) := by
  have hb' : ¬ ((b : Int) = 0) := by omega
  simp only [PV.mod, PV.toNum, hb', if_false, Int.fmod_eq_emod_of_nonneg _ (Int.natCast_nonneg b), Int.natCast_mod]

theorem truediv_nat (a b : Nat) (hb : 0 < b) :
    PV.truediv (PV.int a) (PV.int b) = PV.flt (some (rnd ((a : Rat) / b))) := by
  have hb' : ¬ ((b : Int) = 0) := by omega
  simp only [PV.truediv, PV.toNum, hb', if_false, Int.cast_natCast]

/-- `a / 2` for any scalar `a`: halving a float is exact -/
theorem truediv_two {a : PV} {x : Option Rat} (ha : PV.toFlt a = some x) :
    PV.truediv a (PV.int 2) = PV.flt (x.map (fun p => rnd p / 2)) := by
  cases a <;> cases ha
  · simp [PV.truediv, PV.toNum, Num.toF, rnd_half, rnd_idem]
  · simp [PV.truediv, PV.toNum, Num.toF, rnd_half, rnd_idem]
  · rename_i z; cases z <;> simp [PV.truediv, PV.toNum, Num.toF, rnd_two, fdiv, rnd_half]
  · simp [PV.truediv, PV.toNum, Num.toF, rnd_two, fdiv, rnd_half, rnd_idem]

@[pv] theorem toInt_flt_nat (q : Nat) : PV.toInt (PV.flt (some (q : Rat))) = PV.int q := by
  simp only [PV.toInt, Rat.num_natCast, Rat.den_natCast, Nat.cast_one, Int.tdiv_one]

@[pv] theorem ceilF_flt (x : Rat) : PV.ceilF (PV.flt (some x)) = PV.int (-((-x).floor)) := rfl

theorem truediv_uns_int (w : W) (n : Nat) (i : Int) (hi : rnd i ≠ 0) :
    PV.truediv (PV.uns w n) (PV.int i) = PV.flt (some (fdiv (rnd n) (rnd i))) := by
  simp [PV.truediv, PV.toNum, Num.toF, hi]

theorem truediv_flt_flt (p q : Rat) (hq : q ≠ 0) :
    PV.truediv (PV.flt (some p)) (PV.flt (some q)) = PV.flt (some (fdiv p q)) := by
  simp [PV.truediv, PV.toNum, Num.toF, hq]

theorem truediv_flt_int (p : Rat) (i : Int) (hi : rnd i ≠ 0) :
    PV.truediv (PV.flt (some p)) (PV.int i) = PV.flt (some (fdiv p (rnd i))) := by
  simp [PV.truediv, PV.toNum, Num.toF, hi]

@[pv] theorem truediv_nan_int (i : Int) : PV.truediv (PV.flt none) (PV.int i) = PV.flt none := by
  simp [PV.truediv, PV.toNum, Num.toF]

@[pv] theorem len_arr (w : W) (xs : List Nat) : PV.len (arr w xs) = int xs.length := rfl
@[pv] theorem toList_arr (w : W) (xs : List Nat) : PV.toList (arr w xs) = arr .big xs := rfl
@[pv] theorem astype_arr (w v : W) (xs : List Nat) : PV.astype (arr w xs) v = arr v (xs.map (wrap v)) := rfl
@[pv] theorem astypeD_dtype (a : PV) (w : W) : PV.astypeD a (dtype (some w)) = PV.astype a w := rfl
@[pv] theorem npAddD_dtype (a b : PV) (w : W) : PV.npAddD a b (dtype (some w)) = PV.npAdd a b w := rfl
@[pv] theorem listExtend_arr (w v : W) (xs ys : List Nat) :
    PV.listExtend (arr w xs) (arr v ys) = arr w (xs ++ ys) := rfl
@[pv] theorem listAppend_int (w : W) (xs : List Nat) (i : Int) (h : 0 ≤ i) :
    PV.listAppend (arr w xs) (int i) = arr w (xs ++ [i.toNat]) := by
  simp [PV.listAppend, h]
@[pv] theorem takeN_nat (w : W) (xs : List Nat) (k : Nat) : PV.takeN (arr w xs) (int k) = arr w (xs.take k) := by
  simp [PV.takeN]
@[pv] theorem sliceInit_concat (w : W) (xs : List Nat) (v : Nat) : PV.sliceInit (arr w (xs ++ [v])) = arr w xs := by
  simp [PV.sliceInit]
@[pv] theorem indexLast_concat (w : W) (xs : List Nat) (v : Nat) : PV.indexLast (arr w (xs ++ [v])) = uns w v := by
  simp [PV.indexLast]
@[pv] theorem itemLast_concat (w : W) (xs : List Nat) (v : Nat) : PV.itemLast (arr w (xs ++ [v])) = int v := by
  simp [PV.itemLast]

@[pv] theorem npSum_arr (w : W) (xs : List Nat) : PV.npSum (arr w xs) = uns .u64 (u64 xs.sum) := rfl
theorem npDot_arr (w v : W) (xs ys : List Nat) (h : xs.length = ys.length) :
    PV.npDot (arr w xs) (arr v ys) = uns (wmax w v) (wrap (wmax w v) (List.zipWith (· * ·) xs ys).sum) := by
  simp only [PV.npDot, h, if_true]
theorem npAdd_arr (w v u : W) (xs ys : List Nat) (h : xs.length = ys.length) :
    PV.npAdd (arr w xs) (arr v ys) u = arr u (List.zipWith (fun x y => wrap u (x + y)) xs ys) := by
  simp only [PV.npAdd, h, if_true]
@[pv] theorem npZeros_nat (n : Nat) (w : W) : PV.npZeros (int n) w = arr w (List.replicate n 0) := by
  simp only [PV.npZeros, Int.natCast_nonneg, if_true, Int.toNat_natCast]
@[pv] theorem viewU8_barr (bs : List Bool) : PV.viewU8 (barr bs) = arr .u8 (bs.map (fun b => if b then 1 else 0)) := rfl
@[pv] theorem packbits_arr (xs : List Nat) : PV.packbits (arr .u8 xs) = arr .u8 (pack (xs.map (fun k => k != 0))) := rfl
@[pv] theorem minScalarType_nat (n : Nat) : PV.minScalarType (int n) = dtype (minSafe? n) := by
  simp only [PV.minScalarType, Int.natCast_nonneg, not_lt.mpr, if_false, Int.toNat_natCast]
@[pv] theorem hasobject_dtype (w : Option W) : PV.hasobject (dtype w) = bool w.isNone := rfl
@[pv] theorem mkObj_nil (c : String) : PV.mkObj c [] = obj c pynone pynone pynone := rfl
@[pv] theorem mkObj_flt (c : String) (x : Option Rat) : PV.mkObj c [flt x] = obj c (flt x) pynone pynone := rfl
@[pv] theorem mkObj_three (c : String) (x y z : PV) : PV.mkObj c [x, y, z] = obj c x y z := by
  cases x <;> rfl
@[pv] theorem listIndex_nat (w : W) (xs : List Nat) (h : Nat) :
    PV.listIndex (arr w xs) (int h) = (xs.idxOf? h).elim (err "ValueError") (fun k => int k) := by
  simp only [PV.listIndex, Int.natCast_nonneg, if_true, Int.toNat_natCast]
  cases xs.idxOf? h <;> rfl
theorem _root_.BB.getAt_nat (w : W) (xs : List Nat) (i : Nat) (h : i < xs.length) : PV.getAt (arr w xs) (int i) = int xs[i] := by
  have h0 : ¬ ((i : Int) < 0) := by omega
  simp [PV.getAt, h0, h]
theorem _root_.BB.setAt_nat (w : W) (xs : List Nat) (i v : Nat) (h : i < xs.length) :
    PV.setAt (arr w xs) (int i) (int v) = arr w (xs.set i v) := by
  have h0 : ¬ ((i : Int) < 0) := by omega
  have h1 : (i : Int) < (xs.length : Int) := by omega
  simp [PV.setAt, h0, h1]
theorem arange_nat (a b : Nat) : PV.arange (int a) (int b) = arr .big (List.range' a (b - a)) := by
  simp only [PV.arange, Int.natCast_nonneg, if_true, Int.toNat_natCast, Int.toNat_sub]
@[pv] theorem forEnum_arr (w : W) (l : List Nat) (init : List PV × List PV)
    (body : PV → PV → List PV × List PV → List PV × List PV) :
    PV.forEnum (arr w l) init body = l.zipIdx.foldl (fun st p => body (int p.2) (int p.1) st) init := rfl
@[pv] theorem _root_.BB.lenStr_nat (n : Nat) : PV.lenStr (PV.int n) = PV.int (toString n).length := rfl
@[pv] theorem strOf_nat (n : Nat) : PV.strOf (int n) = str (toString n) := rfl
@[pv] theorem zfill_str_int (s : String) (z : Int) :
    PV.zfill (str s) (int z) = str (String.ofList (List.replicate (z.toNat - s.length) '0') ++ s) := rfl
@[pv] theorem pathJoin_str (a b : String) : PV.pathJoin (str a) (str b) = str (a ++ "/" ++ b) := rfl
theorem _root_.BB.ne_path_of_no_slash {s : String} (hs : '/' ∉ s.toList) (parent x : String) : s ≠ parent ++ "/" ++ x := by
  rintro rfl
  exact hs (by simp [String.toList_append])
@[pv] theorem strCat_str (a b : String) : PV.strCat (str a) (str b) = str (a ++ b) := rfl

end PV
end BB
