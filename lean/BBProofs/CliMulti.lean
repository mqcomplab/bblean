/-
Totality of the multi-round workflow (namespace `BB.MR`) on its documented domain `MRDom`: every task of
every round succeeds, so there is a log of writes (`RunLog`) and the run succeeds by `multiround_ok_iff`
(`multiround_total`); what a successful run produces is BBProofs/Multiround.lean.  Each round's success rests on
what the round before handed over (`Handed` with exact sub-clusters).  The command
line enters at the end only: the domain `MultiDom` of `bb multiround` and its translation to `MRDom`.
-/
import BBProofs.Cli
import BBProofs.Multiround

namespace BB.MR
open BB

variable (pol : BB.Cfg → Policy)

theorem isInit_of_F {st : TreeSt} {F : Nat} (h : st.F? = some F) : st.isInit = true ∧ st.isLeavesOnly = false := by
  cases st with
  | uninit => simp [TreeSt.F?] at h
  | leavesOnly F' ls => simp [TreeSt.F?] at h
  | full hh F' root chain next => exact ⟨rfl, rfl⟩

theorem mkEst_total (bf : Nat) (thr : Rat) (crit : String) (tol : Option Rat) (h : (Crit.ofName? crit).isSome) :
    ∃ e0, mkEst bf thr crit tol = .ok e0 := by
  obtain ⟨m, hm⟩ := construct_name_total thr bf crit h tol
  exact ⟨_, hm⟩

theorem _root_.BB.MC.width {acc : Clu → Clu → Prop} {A B : Multiset Clu} (h : MC acc A B) (F : Nat)
    (hA : ∀ c ∈ A, c.ls.length = F) : ∀ c ∈ B, c.ls.length = F :=
  MC.forall (fun c => c.ls.length = F) (fun _ _ hc hs _ => merge_ls_length hc hs) h hA

/-- step by step: the `_total` lemma of a step gives its result, its `_spec` lemma the facts the next step needs -/
theorem initialGroups_total (hpol : ∀ cfg, (pol cfg).Valid) (c : Cfg) (hbf : 1 ≤ c.bf)
    (hic : (Crit.ofName? c.initCrit).isSome) (hmc : (Crit.ofName? c.midCrit).isSome)
    (F : Nat) (rows : List Row) (hne : rows ≠ []) (hlen : ∀ r ∈ rows, r.length = F) (start : Nat) :
    ∃ groups, initialGroups pol c rows start = .ok groups := by
  obtain ⟨e0, he0⟩ := mkEst_total c.bf c.thr c.initCrit none hic
  obtain ⟨hst0, hbf0⟩ := mkEst_spec he0
  obtain ⟨e1, hfit, _⟩ := fit_total (pol e0.cfg) F e0 (uninit_lo hst0) (uninit_F hst0) rows hne hlen
    (some (List.range' start rows.length))
  obtain ⟨hc1, ok1, lo1, mc1⟩ := fit_fresh_spec (hpol _) hst0 (by rw [hbf0]; exact hbf) hfit
  have hids1 : idsOf e1.st.lclusM = ((List.range' start rows.length : List Nat) : Multiset Nat) := by
    rw [mc1.ids, idsOf_rowUnits]
  have hpos : 0 < rows.length := List.length_pos_of_ne_nil hne
  have hnz : ((List.range' start rows.length : List Nat) : Multiset Nat) ≠ 0 := by
    intro h
    have h0 := congrArg Multiset.card h
    simp only [Multiset.coe_card, List.length_range', Multiset.card_zero] at h0
    omega
  have hw1 : ∀ u ∈ e1.st.lclusM, u.ls.length = F := by
    apply mc1.width F
    intro u hu
    simp only [Multiset.mem_coe, List.mem_map] at hu
    obtain ⟨p, hp, rfl⟩ := hu
    simp [Clu.ofRow, rowToNat, hlen _ (List.of_mem_zip hp).2]
  obtain ⟨e1', hdel⟩ := delInternal_total e1 (isInit_of_ids (by rw [hids1]; exact hnz)) lo1
  obtain ⟨hc1', ok1', hl1'⟩ := delInternal_spec ok1 hdel
  -- the split of the largest cluster finds its rows in the file
  obtain ⟨groups1, hg1⟩ := refineGroups_total e1'.st.sortedClus 1 rows start false (by
    intro u hu id hid
    have hm : u ∈ e1.st.lclusM := hl1' ▸ (TreeSt.mem_sortedClus ok1').mp hu
    have hmem := mem_idsOf_iff.mpr ⟨u, hm, hid⟩
    rw [hids1] at hmem
    have hrange := List.mem_range'_1.mp (by simpa using hmem)
    omega)
  -- the three modes end alike: the stages of `initialGroups_stages`, with their results
  have fin : ∀ {groups}, _ → ∃ groups, initialGroups pol c rows start = .ok groups := fun {groups} hmode =>
    ⟨groups, (initialGroups_stages pol).mpr ⟨e0, e1, e1', he0, hfit, hdel, hmode⟩⟩
  cases hmode : c.mode with
  | none => exact fin (.inl ⟨hmode, rfl⟩)
  | split => exact fin (.inr (.inl ⟨hmode, hg1⟩))
  | full =>
    obtain ⟨m, hsm⟩ := setMerge_name_total e1'.reset c.midCrit hmc (some c.tol) (some (fadd c.thr c.thrChange))
    generalize ({ e1'.reset with
      cfg := { thr := (some (fadd c.thr c.thrChange)).getD e1'.reset.cfg.thr, bf := e1'.reset.cfg.bf, merge := m } } : Est) = e2
      at hsm
    obtain ⟨hst2, hbf2⟩ := setMerge_spec hsm
    have hst2 : e2.st = .uninit := hst2
    have hbf2 : 1 ≤ e2.cfg.bf := by rw [hbf2]; show 1 ≤ e1'.cfg.bf; rw [hc1', hc1, hbf0]; exact hbf
    have hx1 := extracted_refine (qok_true fun i => rows.getD (i - start) []) e1'.st ok1'
      (fun id r _ hr => by simp [List.getD_eq_getElem?_getD, hr]) hg1
    have hlen1 : ∀ g ∈ groups1, ∀ u ∈ g.2, u.ls.length = F := by
      intro g hg u hu
      rcases refineGroups_mem hg1 hg hu with h | ⟨id, r, _, hr, rfl⟩
      · exact hw1 u (hl1' ▸ (TreeSt.mem_sortedClus ok1').mp h)
      · rw [show (single r id).ls.length = r.length by simp [single, Clu.ofBuffer, rowToNat]]
        exact hlen r (List.mem_of_getElem? hr)
    have hrf := refitGroups_eq pol F groups1 e2 (uninit_lo hst2) (uninit_F hst2) (refineGroups_spec hg1).1 hlen1
    obtain ⟨_, lo3, mc3⟩ := insertAll_spec (pol e2.cfg) (hpol _) hbf2 F (uninit_ok hst2) (uninit_lo hst2)
      ((groups1.flatMap (·.2)).map Clu.asUnit)
    have hids3 : idsOf (e2.grow (pol e2.cfg) F ((groups1.flatMap (·.2)).map Clu.asUnit)).st.lclusM ≠ 0 := by
      rw [Est.grow, mc3.ids, uninit_lclusM hst2, zero_add, idsOf_map_asUnit]
      have hids := hx1.ids
      rw [groupClus] at hids
      rw [hids, hl1', hids1]
      exact hnz
    obtain ⟨e4, hd4⟩ := delInternal_total _ (isInit_of_ids hids3) lo3
    exact fin (.inr (.inr ⟨hmode, groups1, e2, _, e4, hg1, hsm, hrf, hd4, rfl⟩))

theorem qok_exactN (D : Nat → Row) : QOK D (ExactN D) :=
  ⟨exactN_merge D, exactN_asUnit D, fun _ => ⟨exact_ofRow D rfl, le_refl 1⟩,
    fun i => ⟨exact_ofBuffer_singleton D i, le_refl 1⟩⟩

theorem pairUnits_total {r : Nat} {fs : FS} {es : List Entry} (h : DirInv r fs es)
    (hw : ∀ e ∈ es, ∀ c ∈ e.cs, c.w = e.w) (hn : ∀ e ∈ es, ∀ c ∈ e.cs, c.ids.length = c.n)
    (e : Entry) (he : e ∈ es) : pairUnits fs (e.pair r) = .ok (e.cs.map Clu.asUnit) := by
  rw [pairUnits_entry h hw e he, if_pos (hn e he)]

/-- the entries a round may read: well-keyed, counts right, no empty group, one width -/
structure Readable (F r : Nat) (fs : FS) (es : List Entry) : Prop where
  dir : DirInv r fs es
  keyed : ∀ e ∈ es, ∀ c ∈ e.cs, c.w = e.w
  cnt : ∀ e ∈ es, ∀ c ∈ e.cs, c.ids.length = c.n
  ne : ∀ e ∈ es, e.cs ≠ []
  width : ∀ e ∈ es, ∀ c ∈ e.cs, c.ls.length = F

theorem fitPairs_eq {F r : Nat} {fs : FS} {es : List Entry} (hr : Readable F r fs es) :
    ∀ (pairs : List (String × String)) (e : Est), (∀ p ∈ pairs, ∃ en ∈ es, p = en.pair r) →
      e.st.isLeavesOnly = false → (∀ F', e.st.F? = some F' → F' = F) →
      fitPairs pol fs e pairs = .ok (e.grow (pol e.cfg) F (pairs.flatMap (unitsRead fs)))
  | [], _, _, _, _ => rfl
  | p :: rest, e, hp, hlo, hF => by
    obtain ⟨en, hen, rfl⟩ := hp p (by simp)
    have hus := pairUnits_total hr.dir hr.keyed hr.cnt en hen
    have h1 := fitBuffers_eq (pol e.cfg) (us := en.cs.map Clu.asUnit) hlo hF (by simpa using hr.ne en hen)
      (fun u hu => by obtain ⟨c, hc, rfl⟩ := List.mem_map.mp hu; exact hr.width en hen c hc)
    have h2 := fitPairs_eq hr rest (e.grow (pol e.cfg) F (en.cs.map Clu.asUnit))
      (fun q hq => hp q (List.mem_cons_of_mem _ hq)) (insertAll_isLeavesOnly _ _ _ hlo _) (grow_F _ hlo hF _)
    -- `grow` after `grow` is `grow` of the concatenation (`grow_grow`)
    simp only [fitPairs, hus, h1, h2, grow_cfg, grow_grow, List.flatMap_cons, unitsRead_of_ok hus]

theorem mergedEst_total {F r : Nat} {fs : FS} {es : List Entry}
    (hr : Readable F r fs es) (bf : Nat) (thr : Rat) (crit : String)
    (hc : (Crit.ofName? crit).isSome) (tol : Rat) (pairs : List (String × String))
    (hp : ∀ p ∈ pairs, ∃ en ∈ es, p = en.pair r) (hne : pairs ≠ []) :
    ∃ e2, mergedEst pol bf thr crit tol fs pairs = .ok e2 := by
  obtain ⟨e0, he0⟩ := mkEst_total bf thr crit (some tol) hc
  have hst0 := (mkEst_spec he0).1
  have hlo := uninit_lo hst0
  have h1 := fitPairs_eq pol hr pairs e0 hp hlo (uninit_F hst0)
  -- the first pair brings a unit, so there is a tree to release the inner nodes of
  have hus : pairs.flatMap (unitsRead fs) ≠ [] := by
    obtain ⟨p, rest, rfl⟩ := List.exists_cons_of_ne_nil hne
    obtain ⟨en, hen, rfl⟩ := hp p (by simp)
    simpa [unitsRead_of_ok (pairUnits_total hr.dir hr.keyed hr.cnt en hen)] using fun h => absurd h (hr.ne en hen)
  obtain ⟨e2, h2⟩ := delInternal_total (e0.grow (pol e0.cfg) F (pairs.flatMap (unitsRead fs)))
    (isInit_of_F (by rw [Est.grow, insertAll_F _ _ _ hlo, if_neg hus])).1 (insertAll_isLeavesOnly _ _ _ hlo _)
  exact ⟨e2, by simp only [mergedEst, he0, h1, h2]⟩

theorem mergingGroups_total (hpol : ∀ cfg, (pol cfg).Valid) {F r : Nat} {fs : FS} {es : List Entry}
    (hr : Readable F r fs es) (N : Nat) (hids : ∀ e ∈ es, ∀ c ∈ e.cs, ∀ id ∈ c.ids, id < N)
    (c : Cfg) (hbf : 1 ≤ c.bf) (hmc : (Crit.ofName? c.midCrit).isSome) (allRows : List Row)
    (hN : N ≤ allRows.length) (pairs : List (String × String))
    (hp : ∀ p ∈ pairs, ∃ en ∈ es, p = en.pair r) (hne : pairs ≠ []) :
    ∃ groups, mergingGroups pol c allRows fs pairs = .ok groups := by
  obtain ⟨e2, he2⟩ := mergedEst_total pol hr c.bf (fadd c.thr c.thrChange) c.midCrit hmc c.tol pairs hp hne
  obtain ⟨_, ok2, mc2⟩ := mergedEst_spec pol hpol hbf he2
  simp only [mergingGroups, he2]
  split
  · rw [refineGroupsSorted_eq]
    apply refineGroups_total
    intro u hu id hid
    refine ⟨Nat.zero_le _, ?_⟩
    have hm : u ∈ e2.st.lclusM := (TreeSt.mem_sortedClus ok2).mp hu
    have h1 := mem_idsOf_iff.mpr ⟨u, hm, hid⟩
    rw [mc2.ids] at h1
    obtain ⟨u', hu', hid'⟩ := mem_idsOf_iff.mp h1
    obtain ⟨p, hpp, huu⟩ := List.mem_flatMap.mp hu'
    obtain ⟨en, hen, rfl⟩ := hp p hpp
    rw [unitsRead_of_ok (pairUnits_total hr.dir hr.keyed hr.cnt en hen)] at huu
    obtain ⟨c0, hc0, rfl⟩ := List.mem_map.mp huu
    have hlt := hids en hen c0 hc0 id hid'
    omega
  · exact ⟨_, rfl⟩

theorem finalClus_total {F r : Nat} {fs : FS} {es : List Entry}
    (hr : Readable F r fs es) (c : Cfg) (hfc : (Crit.ofName? c.finalCrit).isSome)
    (pairs : List (String × String)) (hp : ∀ p ∈ pairs, ∃ en ∈ es, p = en.pair r) (hne : pairs ≠ []) :
    ∃ cl, finalClus pol c fs pairs = .ok cl := by
  obtain ⟨e2, he2⟩ := mergedEst_total pol hr c.bf (fadd c.thr c.thrChange) c.finalCrit hfc c.tol pairs hp hne
  exact ⟨e2.st.sortedClus, by simp only [finalClus, he2]⟩

theorem Handed.id_lt {Q : Clu → Prop} {N r : Nat} {fs : FS} {es : List Entry} (hg : Handed Q N r fs es)
    {e : Entry} (he : e ∈ es) {c : Clu} (hc : c ∈ e.cs) {id : Nat} (hid : id ∈ c.ids) : id < N := by
  have hm : c ∈ ((es.flatMap (·.cs) : List Clu) : Multiset Clu) := List.mem_flatMap.mpr ⟨e, he, hc⟩
  have hmem := mem_idsOf_iff.mpr ⟨c, hm, hid⟩
  rw [hg.esok.ids] at hmem
  simpa using hmem

theorem Handed.readable {D : Nat → Row} {N r : Nat} {fs : FS} {es : List Entry} (hg : Handed (ExactN D) N r fs es)
    (F : Nat) (hDw : ∀ i, i < N → (D i).length = F) : Readable F r fs es where
  dir := hg.dir
  keyed := hg.esok.keyed
  cnt := fun e he c hc => (hg.esok.q e he c hc).1.n_eq.symm
  ne := hg.ne
  width := by
    intro e he c hc
    have hx := hg.esok.q e he c hc
    rw [hx.1.ls_eq]
    apply colSum_length
    · intro r hr
      obtain ⟨id, hid, rfl⟩ := List.mem_map.mp hr
      exact hDw id (hg.id_lt he hc hid)
    · intro h0
      have hlen : c.ids.length = 0 := by simpa using congrArg List.length h0
      have hn := hx.1.n_eq
      have hpos := hx.2
      omega

theorem Handed.pairs {Q : Clu → Prop} {N r : Nat} {fs : FS} {es : List Entry} (hg : Handed Q N r fs es) (hN : 0 < N) :
    (∀ p ∈ prevPairs fs (r + 1), ∃ en ∈ es, p = en.pair r) ∧ prevPairs fs (r + 1) ≠ [] := by
  refine ⟨fun p hp => (mem_prevPairs hg.dir).mp hp, fun h0 => ?_⟩
  have hes : es = [] := List.eq_nil_iff_forall_not_mem.mpr fun e he =>
    List.not_mem_nil (h0 ▸ (mem_prevPairs hg.dir).mpr ⟨e, he, rfl⟩)
  have hcard := congrArg Multiset.card (hes ▸ hg.esok.ids)
  simp at hcard
  omega

/-- the documented domain of the multi-round workflow -/
structure MRDom (c : Cfg) (files : List (List Row)) (F : Nat) : Prop where
  initCrit : (Crit.ofName? c.initCrit).isSome
  midCrit : (Crit.ofName? c.midCrit).isSome
  finalCrit : (Crit.ofName? c.finalCrit).isSome
  bf : 1 ≤ c.bf
  atLeastOne : files ≠ []
  nonempty : ∀ f ∈ files, f ≠ []
  width : ∀ f ∈ files, ∀ r ∈ f, r.length = F

/-- what the later rounds need of the data -/
structure DataOK (D : Nat → Row) (N F : Nat) (allRows : List Row) : Prop where
  pos : 0 < N
  width : ∀ i, i < N → (D i).length = F
  len : N ≤ allRows.length
  labels : LabelsFrom D 0 allRows

theorem MRDom.dataOK {c : Cfg} {files : List (List Row)} {F : Nat} (hd : MRDom c files F) :
    DataOK (dataOf files) (files.map List.length).sum F files.flatten := by
  have hlen : (files.map List.length).sum = files.flatten.length := by rw [List.length_flatten]
  refine ⟨by rw [hlen]; exact BB.Cli.flatten_pos files hd.atLeastOne hd.nonempty, fun i hi => ?_, by rw [hlen],
    labelsFrom_dataOf files⟩
  rw [hlen] at hi
  rw [dataOf_eq_getElem files hi]
  obtain ⟨f, hf, hr⟩ := List.mem_flatten.mp (List.getElem_mem hi)
  exact hd.width f hf _ hr

section
variable (hpol : ∀ cfg, (pol cfg).Valid)
include hpol

theorem round1_total (c : Cfg) (files : List (List Row)) (F : Nat) (hd : MRDom c files F) :
    ∃ wss : List Writes, initTasks pol c files = wss.map .ok := by
  apply tasks_all_ok
  rw [initTasks_eq]
  intro t ht
  obtain ⟨x, hx, rfl⟩ := List.mem_map.mp ht
  have hmem : x.1 ∈ files.zip _ := (List.mem_zipIdx' hx).2 ▸ List.getElem_mem _
  have hf : x.1.1 ∈ files := (List.of_mem_zip (show (x.1.1, x.1.2) ∈ _ from hmem)).1
  obtain ⟨gs, hgs⟩ := initialGroups_total pol hpol c hd.bf hd.initCrit hd.midCrit F x.1.1 (hd.nonempty _ hf)
    (hd.width _ hf) x.1.2
  simp only [initialTask, hgs, Except.map]
  exact ⟨_, rfl⟩

theorem mid_total (c : Cfg) (hbf : 1 ≤ c.bf) (hmc : (Crit.ofName? c.midCrit).isSome) {D : Nat → Row} {N F : Nat}
    {allRows : List Row} (hd : DataOK D N F allRows) {r : Nat} {fs : FS}
    {es : List Entry} (hg : Handed (ExactN D) N r fs es) :
    ∃ wss : List Writes, midTasks pol c allRows (r + 1) fs = wss.map .ok := by
  apply tasks_all_ok
  rw [midTasks_eq]
  intro t ht
  obtain ⟨x, hx, rfl⟩ := List.mem_map.mp ht
  obtain ⟨gs, hgs⟩ := mergingGroups_total pol hpol (hg.readable F hd.width) N (fun e he c hc id hid => hg.id_lt he hc hid)
    c hbf hmc allRows hd.len (sortBatch x.1) (fun p hpp => (hg.pairs hd.pos).1 p (chunk_zipIdx_mem hx hpp))
    (by
      -- no batch is empty
      intro h0
      have hlen := (sortBatch_perm x.1).length_eq
      rw [h0] at hlen
      exact chunk_ne_nil _ _ _ ((List.mem_zipIdx' hx).2 ▸ List.getElem_mem _) (List.length_eq_zero_iff.mp hlen.symm))
  simp only [mergingTask, hgs, Except.map]
  exact ⟨_, rfl⟩

/-- each round succeeds on what the round before handed over (`mid_step`) -/
theorem midLog_total (c : Cfg) (hbf : 1 ≤ c.bf) (hmc : (Crit.ofName? c.midCrit).isSome) {D : Nat → Row} {N F : Nat}
    {allRows : List Row} (hd : DataOK D N F allRows) :
    ∀ (k r : Nat) (fs : FS) (es : List Entry), Handed (ExactN D) N r fs es →
      ∃ ws, MidLog pol c allRows k (r + 1) fs ws
  | 0, r, fs, _, _ => ⟨[], .zero (r + 1) fs⟩
  | k + 1, r, fs, es, hg => by
    obtain ⟨wss, e⟩ := mid_total pol hpol c hbf hmc hd hg
    obtain ⟨es1, hg1⟩ := mid_step hpol (qok_exactN D) c hbf hd.labels hg.dir hg.esok (execRound_map_ok e)
    obtain ⟨ws, hl⟩ := midLog_total c hbf hmc hd k (r + 1) _ es1 hg1
    exact ⟨_, .succ e hl⟩

/-- on the domain there is a log of writes, so the run succeeds (`multiround_ok_iff`) -/
theorem multiround_total (c : Cfg) (files : List (List Row)) (F : Nat) (hd : MRDom c files F)
    (sched : Nat → List Nat → List Nat) (fs0 : FS) : ∃ fs, multiround pol c files sched fs0 = .ok fs := by
  have hdata := hd.dataOK
  have hq := qok_exactN (dataOf files)
  obtain ⟨wss, e⟩ := round1_total pol hpol c files F hd
  obtain ⟨es1, hg1⟩ := round1_step hpol hq c hd.bf (WF_purge fs0) (purge_noRound fs0) (execRound_map_ok e)
  obtain ⟨ws2, hl⟩ := midLog_total pol hpol c hd.bf hd.midCrit hdata c.nMidRounds 1 _ es1 hg1
  obtain ⟨es2, hg2⟩ := hl.inv hpol hq hd.bf hdata.labels 1 es1 rfl hg1
  obtain ⟨hp, hpne⟩ := hg2.pairs hdata.pos
  obtain ⟨cl, hcl⟩ := finalClus_total pol (hg2.readable F hdata.width) c hd.finalCrit _ hp hpne
  rw [← writeAll_append] at hcl
  exact ⟨_, (multiround_ok_iff pol c files sched fs0 _).mpr ⟨_, cl, .mk e hl hcl, rfl⟩⟩

end

end BB.MR

namespace BB.Cli
open BB

/-- the documented domain of `bb multiround` -/
structure MultiDom (o : MultiOpts) (files : List (List Row)) (F : Nat) : Prop where
  initCrit : (Crit.ofName? o.initCrit).isSome
  midCrit : (Crit.ofName? o.midCrit).isSome
  mode : (parseMode o.initialRefine).isSome
  procs : ∀ m, o.midPs = some m → m ≤ o.ps
  bf : 2 ≤ o.bf
  atLeastOne : files ≠ []
  nonempty : ∀ f ∈ files, f ≠ []
  width : ∀ f ∈ files, ∀ r ∈ f, r.length = F

theorem MultiDom.mr {o : MultiOpts} {files : List (List Row)} {F : Nat} (h : MultiDom o files F) :
    MR.MRDom (toMRCfg o) files F :=
  ⟨h.initCrit, h.midCrit, h.midCrit, Nat.le_of_succ_le h.bf, h.atLeastOne, h.nonempty, h.width⟩

/-- `toMRCfg` reads the refinement mode with `getD .full`; on the domain that default is never taken,
`multiArgsOk` has checked `parseMode` before -/
theorem MultiDom.args {o : MultiOpts} {files : List (List Row)} {F : Nat} (h : MultiDom o files F) :
    multiArgsOk o = true := by
  unfold multiArgsOk
  rw [h.mode, Bool.and_true]
  cases hm : o.midPs with
  | none => rfl
  | some m => simpa using h.procs m hm

/-- a concrete option set (non-vacuity examples of BBProps/C15.lean) -/
def exampleMulti : MultiOpts :=
  { bf := 50, thr := 13/20, midChg := 0, tol := 1/20, initCrit := "diameter", midCrit := "tolerance-diameter",
    initialRefine := "full", splitAfterMid := true, binSize := 2, nMidRounds := 2, ps := 4, midPs := some 2,
    saveCentroids := true, saveTree := false, cleanup := true, overwrite := true }

end BB.Cli
