/-
GenEq2 — the translated `_BFSubcluster` methods (`bblean/bitbirch.py`: `n_samples`, `linear_sum`,
`replace_n_samples_and_linear_sum`, `add_to_n_samples_and_linear_sum`, `update`, `merge_subcluster`)
compute the model's `Clu.update` / `Clu.merge` / `Clu.mergedSummary`.

A sub-cluster object is its four `__slots__`: `_buffer` (the sums followed by the count, one unsigned
array in the cluster's counter width), `packed_centroid`, `child`, `mol_indices`.  `stateOf c child` is
that tuple for a model cluster `c`.
-/
import BBProofs.GenEq
import BBProofs.Exact
import BBModel.Tree

namespace BB
open PV

/-- `_buffer`: per-bit sums followed by the count, in the counter width -/
def bufOf (c : Clu) : PV := PV.arr c.w (c.ls ++ [c.n])
/-- the four slots of the `_BFSubcluster` object that holds `c` -/
def stateOf (c : Clu) (child : PV) : List PV :=
  [bufOf c, PV.arr .u8 (pack c.cent), child, PV.arr .big c.ids]

theorem gen_n_samples (expf : Rat → Rat) (c : Clu) (a b d : PV) :
    BBGen._BFSubcluster_n_samples expf (bufOf c) a b d = PV.int c.n := by
  simp only [BBGen._BFSubcluster_n_samples, bufOf, pv]

theorem gen_linear_sum (expf : Rat → Rat) (c : Clu) (a b d : PV) :
    BBGen._BFSubcluster_linear_sum expf (bufOf c) a b d = PV.arr c.w c.ls := by
  simp only [BBGen._BFSubcluster_linear_sum, bufOf, pv]

theorem gen_min_safe_uint_of_lt (expf : Rat → Rat) (n : Nat) (h : n < 2 ^ 64) :
    BBGen.min_safe_uint expf (PV.int n) = PV.dtype (some (minSafe n)) := by
  rw [gen_min_safe_uint, minSafe?_eq_some n h]

/-- a cluster the tree holds: sums bounded by the count, the count fits its counter -/
structure CluOk (c : Clu) : Prop where
  le : ∀ k ∈ c.ls, k ≤ c.n
  fits : c.n < 2 ^ c.w.bits

theorem gen_replace (expf : Rat → Rat) (c : Clu) (cent child ids : PV) (n : Nat) (w' : W) (ls : List Nat)
    (hlen : ls.length = c.ls.length) (hn : n < 2 ^ 53) (hk : ∀ k ∈ ls, k ≤ n) :
    BBGen._BFSubcluster_replace_n_samples_and_linear_sum expf (bufOf c) cent child ids (PV.int n) (PV.arr w' ls)
      = [PV.arr (minSafe n) (ls ++ [n]), PV.arr .u8 (pack (centroidFromSum ls n)), child, ids] := by
  have hn64 : n < 2 ^ 64 := by omega
  simp only [BBGen._BFSubcluster_replace_n_samples_and_linear_sum, gen_min_safe_uint_of_lt expf n hn64, bufOf, pv, List.map_append,
    List.map_cons, List.map_nil, setInit_concat _ _ _ _ _ (hlen.trans (List.length_map _).symm),
    setLast_concat _ _ _ _ (minSafe_bits_lt n hn64), map_wrap_of_le n ls hk, gen_centroid_packed expf w' ls n hk hn]

theorem merged_ls_eq (c s : Clu) (hc : CluOk c) (hs : CluOk s) (hlen : c.ls.length = s.ls.length) :
    (addLs c.ls s.ls).map (wrap (minSafe (c.n + s.n))) = addLs c.ls s.ls :=
  map_wrap_of_le _ _ (addLs_le _ _ hlen _ _ hc.le hs.le)

theorem gen_add_to (expf : Rat → Rat) (c s : Clu) (cent child ids : PV) (ws : W)
    (hc : CluOk c) (hs : CluOk s) (hlen : c.ls.length = s.ls.length) (hn : c.n + s.n < 2 ^ 53) :
    BBGen._BFSubcluster_add_to_n_samples_and_linear_sum expf (bufOf c) cent child ids (PV.int s.n) (PV.arr ws s.ls)
      = [bufOf (c.update s), PV.arr .u8 (pack (c.update s).cent), child, ids] := by
  have hn64 : c.n + s.n < 2 ^ 64 := by omega
  have hle := addLs_le _ _ hlen _ _ hc.le hs.le
  simp only [BBGen._BFSubcluster_add_to_n_samples_and_linear_sum, BBGen._BFSubcluster_n_samples, add_int_int, ← Nat.cast_add,
    gen_min_safe_uint_of_lt expf _ hn64, bufOf, pv, List.map_append, List.map_cons, List.map_nil,
    iaddInit_concat _ _ _ _ _ (hlen.symm.trans (List.length_map _).symm), zipWith_wrap_add _ _ _ hlen,
    merged_ls_eq c s hc hs hlen, setLast_concat _ _ _ _ (minSafe_bits_lt _ hn64),
    gen_centroid_packed expf _ _ _ hle hn, Clu.update]

theorem gen_update (expf : Rat → Rat) (c s : Clu) (child scent schild : PV)
    (hc : CluOk c) (hs : CluOk s) (hlen : c.ls.length = s.ls.length) (hn : c.n + s.n < 2 ^ 53) :
    BBGen._BFSubcluster_update expf (bufOf c) (PV.arr .u8 (pack c.cent)) child (PV.arr .big c.ids)
        (bufOf s) scent schild (PV.arr .big s.ids)
      = stateOf (c.update s) child := by
  unfold BBGen._BFSubcluster_update
  rw [gen_n_samples, gen_linear_sum, gen_add_to expf c s _ _ _ s.w hc hs hlen hn]
  simp only [stateOf, pv, Clu.update]

theorem mergedSummary_ls (c s : Clu) (hc : CluOk c) (hs : CluOk s) (hlen : c.ls.length = s.ls.length) :
    (c.mergedSummary s).ls = addLs c.ls s.ls := by
  simp only [Clu.mergedSummary]
  exact merged_ls_eq c s hc hs hlen

theorem gen_merge_subcluster (expf : Rat → Rat) (m : MergeFn) (thr : Rat) (c s : Clu) (child scent schild : PV)
    (hc : CluOk c) (hs : CluOk s) (hlen : c.ls.length = s.ls.length) (hn : c.n + s.n < 2 ^ 53)
    (hnew : SumOk (c.mergedSummary s)) (hold : SumOk c.summary) (hO : 1 ≤ c.n) :
    BBGen._BFSubcluster_merge_subcluster expf (bufOf c) (PV.arr .u8 (pack c.cent)) child (PV.arr .big c.ids)
        (bufOf s) scent schild (PV.arr .big s.ids) (PV.flt (some thr)) (objOf expf m)
      = if accept m (tabOf expf) thr (c.mergedSummary s) c.summary s.summary
        then PV.bool true :: stateOf (c.merge s) child
        else PV.bool false :: stateOf c child := by
  unfold BBGen._BFSubcluster_merge_subcluster
  have hn64 : c.n + s.n < 2 ^ 64 := by omega
  have hmls := mergedSummary_ls c s hc hs hlen
  have hmn : (c.mergedSummary s).n = c.n + s.n := rfl
  simp only [gen_n_samples, gen_linear_sum, add_int_int, ← Nat.cast_add]
  have hnew_ls : PV.npAddD (PV.arr c.w c.ls) (PV.arr s.w s.ls) (BBGen.min_safe_uint expf (PV.int ((c.n + s.n : Nat))))
      = PV.arr (minSafe (c.n + s.n)) (c.mergedSummary s).ls := by
    rw [gen_min_safe_uint_of_lt expf _ hn64]
    simp only [pv, npAdd_arr _ _ _ _ _ hlen, Clu.mergedSummary]
    congr 1
    rw [addLs_eq_zipWith c.ls s.ls hlen, List.map_zipWith]
  rw [hnew_ls]
  -- the sums and counts of `c.summary`, `s.summary` are those of `c`, `s` by definition
  rw [show BBGen.MergeAcceptFunction_call expf _ _ _ (PV.int (c.n + s.n : Nat)) (PV.arr c.w c.ls) (PV.arr s.w s.ls) (PV.int c.n)
      (PV.int s.n) = _ from
    gen_accept expf m thr (c.mergedSummary s) c.summary s.summary (minSafe (c.n + s.n)) c.w s.w hnew hold hO]
  simp only [guardL_int, guardL_arr, iteLS_bool]
  by_cases ha : accept m (tabOf expf) thr (c.mergedSummary s) c.summary s.summary = true
  · simp only [ha, if_true]
    rw [gen_replace expf c _ _ _ (c.n + s.n) (minSafe (c.n + s.n)) (c.mergedSummary s).ls
      (by rw [hmls, addLs_length_eq _ _ hlen]) hn (by rw [hmls]; exact addLs_le _ _ hlen _ _ hc.le hs.le)]
    simp only [pv, stateOf, bufOf, Clu.merge, hmn]
    have hw : (c.mergedSummary s).ls.map (wrap (minSafe (c.n + s.n))) = (c.mergedSummary s).ls := by
      rw [hmls]; exact merged_ls_eq c s hc hs hlen
    rw [hw]
  · simp only [ha, Bool.false_eq_true, if_false, stateOf]

theorem cluOk_of_exact (D : Nat → Row) (c : Clu) (h : Exact D c) (hn : c.n < 2 ^ 64) : CluOk c :=
  ⟨exact_sum_le h, by rw [h.w_eq]; exact minSafe_bits_lt c.n hn⟩

end BB
