/-
GenEq13 — `_BFNode.insert_bf_subcluster` as translated: the five cases of the insertion step of the model
(`BB.insertLeaf`, `BB.ins` in `BBModel/Tree.lean`), by what happens to the entry list, the centroid cache, the call log and
the returned "this node must be split" flag.

Sub-clusters are handles and buffer rows centroid tokens (GenEq8).  What the code asks of other objects is an input and a log
entry: `np.argmax(_jt_sim_arr_vec_packed(…))` (the routing decision `closest_idx`), `closest.child` (`None` at a leaf, else
a node token), `closest.merge_subcluster(…)` (code 1, result `merge_was_successful`), the recursive
`child.insert_bf_subcluster(…)` (code 2, result `child_must_be_split`), `_split_node(child)` (code 3, results two fresh
handles), `closest.update(nominee)` (code 4); centroids read after such a call are inputs.
The branching factor is `len(buf) - 1`.
-/
import BBProofs.GenEq8
import BBModel.Tree

namespace BB
open PV

theorem gen_branching_factor (expf : Rat → Rat) (subs buf : List Nat) (log : PV) :
    BBGen._BFNode_branching_factor expf (arr .big subs) (arr .big buf) log = int ((buf.length : Int) - 1) := rfl

/- The arguments after `fn thr` are the locals of the Python method, in the (alphabetical) order of the generated signature:
`x1` `_subclusters_at_closest_idx_packed_centroid`, `x2` `child_must_be_split`, `x3` `closest_idx`,
`x4` `closest_subcluster_child`, `x5` `closest_subcluster_packed_centroid`, `x6` `merge_was_successful`,
`x7`–`x10` `new_subcluster1`, its packed centroid, `new_subcluster2`, its packed centroid, `x11` `sim_matrix`, and last
`subcluster_packed_centroid`.  Each case fixes the ones its branch reads and leaves the others arbitrary. -/

/-- (1) an empty node takes the nominee as its only entry; never over-full -/
theorem gen_insert_empty (expf : Rat → Rat) (buf log : List Nat) (h c : Nat) (hb : 0 < buf.length)
    (fn thr x1 x2 x3 x4 x5 x6 x7 x8 x9 x10 x11 : PV) :
    BBGen._BFNode_insert_bf_subcluster expf (arr .big []) (arr .big buf) (arr .big log) (int h) fn thr
        x1 x2 x3 x4 x5 x6 x7 x8 x9 x10 x11 (int c)
      = [bool false, arr .big [h], arr .big (buf.set 0 c), arr .big log] := by
  simp only [BBGen._BFNode_insert_bf_subcluster, pv, List.isEmpty_nil, gen_node_append expf [] buf _ h c hb, List.length_nil]

/-- (2) leaf, the closest entry accepts the nominee: entries unchanged, its cache row becomes the merged centroid -/
theorem gen_insert_leaf_merge (expf : Rat → Rat) (subs buf log : List Nat) (h c i cNew : Nat)
    (hne : subs ≠ []) (hi : i < subs.length) (hlen : subs.length < buf.length)
    (fn thr x1 x2 x7 x8 x9 x10 x11 : PV) :
    BBGen._BFNode_insert_bf_subcluster expf (arr .big subs) (arr .big buf) (arr .big log) (int h) fn thr
        x1 x2 (int i) pynone (int cNew) (bool true) x7 x8 x9 x10 x11 (int c)
      = [bool false, arr .big subs, arr .big (buf.set i cNew), arr .big (log ++ [1, subs[i], h])] := by
  simp only [BBGen._BFNode_insert_bf_subcluster, pv, List.isEmpty_eq_false_iff.mpr hne, getAt_nat _ _ _ hi,
    setAt_nat _ _ _ _ (hi.trans hlen)]

/-- (3) leaf, the closest entry refuses: the nominee is appended; the node is over-full iff it now has more than
`branching_factor` entries -/
theorem gen_insert_leaf_append (expf : Rat → Rat) (subs buf log : List Nat) (h c i : Nat)
    (hne : subs ≠ []) (hi : i < subs.length) (hlen : subs.length < buf.length)
    (fn thr x1 x2 x5 x7 x8 x9 x10 x11 : PV) :
    BBGen._BFNode_insert_bf_subcluster expf (arr .big subs) (arr .big buf) (arr .big log) (int h) fn thr
        x1 x2 (int i) pynone x5 (bool false) x7 x8 x9 x10 x11 (int c)
      = [bool (decide (buf.length - 1 < subs.length + 1)), arr .big (subs ++ [h]), arr .big (buf.set subs.length c),
         arr .big (log ++ [1, subs[i], h])] := by
  simp only [BBGen._BFNode_insert_bf_subcluster, pv, List.isEmpty_eq_false_iff.mpr hne, getAt_nat _ _ _ hi,
    gen_node_append expf subs buf _ h c hlen, gen_branching_factor, List.length_append, List.length_singleton, List.length_set]
  congr 2; rw [decide_eq_decide]; omega

/-- (4) inner node, the child reported that it must be split: `_split_node` is asked for the two halves, the tracking entry is
replaced in place by the first and the second is appended (GenEq8); over-full iff more than `branching_factor` entries -/
theorem gen_insert_inner_split (expf : Rat → Rat) (subs buf log : List Nat) (h i tok h1 h2 c1 c2 : Nat)
    (hne : subs ≠ []) (hi : i < subs.length) (hlen : subs.length < buf.length) (hfirst : subs.idxOf? subs[i] = some i)
    (fn thr x1 x5 x6 x11 xc : PV) :
    BBGen._BFNode_insert_bf_subcluster expf (arr .big subs) (arr .big buf) (arr .big log) (int h) fn thr
        x1 (bool true) (int i) (int tok) x5 x6 (int h1) (int c1) (int h2) (int c2) x11 xc
      = [bool (decide (buf.length - 1 < subs.length + 1)), arr .big (subs.set i h1 ++ [h2]),
         arr .big ((buf.set i c1).set subs.length c2), arr .big (log ++ [2, tok, h, 3, tok])] := by
  simp only [BBGen._BFNode_insert_bf_subcluster, pv, List.isEmpty_eq_false_iff.mpr hne, getAt_nat _ _ _ hi,
    gen_node_split_update expf subs buf _ subs[i] h1 h2 c1 c2 i hlen hfirst, gen_branching_factor, List.length_append, List.length_set,
    List.length_singleton]
  congr 2; rw [decide_eq_decide]; omega

/-- (5) inner node, the child absorbed the nominee: the tracking entry is updated with it, its cache row refreshed; entries
unchanged; never over-full -/
theorem gen_insert_inner_update (expf : Rat → Rat) (subs buf log : List Nat) (h i tok cUpd : Nat)
    (hne : subs ≠ []) (hi : i < subs.length) (hlen : subs.length < buf.length)
    (fn thr x5 x6 x7 x8 x9 x10 x11 xc : PV) :
    BBGen._BFNode_insert_bf_subcluster expf (arr .big subs) (arr .big buf) (arr .big log) (int h) fn thr
        (int cUpd) (bool false) (int i) (int tok) x5 x6 x7 x8 x9 x10 x11 xc
      = [bool false, arr .big subs, arr .big (buf.set i cUpd), arr .big (log ++ [2, tok, h, 4, subs[i], h])] := by
  simp only [BBGen._BFNode_insert_bf_subcluster, pv, List.isEmpty_eq_false_iff.mpr hne, getAt_nat _ _ _ hi,
    setAt_nat _ _ _ _ (hi.trans hlen)]

/-- the number of entries and the over-full flag of the model's `insertLeaf` are those of the code's cases (1)–(3), with the
routing decision `i = P.route …` and the acceptance `P.accept …` as the inputs `closest_idx`, `merge_was_successful`, and
`cap = branching_factor = len(buf) - 1` -/
theorem insertLeaf_cases (P : Policy) (l : LeafN) (s : Clu) (next : Nat) :
    let r := insertLeaf P l s next
    (l.subs = [] → r.node.subs.length = 1 ∧ r.over = false) ∧
    (∀ c, l.subs ≠ [] → l.subs[P.route l.cache s.cent]? = some c → P.accept c s = true →
        r.node.subs.length = l.subs.length ∧ r.over = false) ∧
    (∀ c, l.subs ≠ [] → l.subs[P.route l.cache s.cent]? = some c → P.accept c s = false →
        r.node.subs.length = l.subs.length + 1 ∧ r.over = decide (l.cap < l.subs.length + 1)) := by
  intro r
  refine ⟨fun h => ?_, fun c hne hc ha => ?_, fun c hne hc ha => ?_⟩
  · simp only [r, insertLeaf, h, List.isEmpty_nil, if_true, List.length_singleton, and_self]
  · simp only [r, insertLeaf, List.isEmpty_eq_false_iff.mpr hne, hc, ha, Bool.false_eq_true, if_false, if_true,
      List.length_set, and_self]
  · simp only [r, insertLeaf, List.isEmpty_eq_false_iff.mpr hne, hc, ha, Bool.false_eq_true, if_false,
      List.length_append, List.length_singleton, and_self]

/-- the same for the model's inner-node step `ins (h+1)` and the cases (4)–(5), with `rc` the result of the recursive
insertion into the routed child -/
theorem ins_cases (P : Policy) (h : Nat) (t : InnerN (Tree h)) (s : Clu) (next : Nat) (c : Clu) (child : Tree h)
    (hc : t.ents[P.route t.cache s.cent]? = some (c, child)) :
    let r := ins P (h + 1) t s next
    let rc := ins P h child s next
    (rc.over = true → (r.node : InnerN (Tree h)).ents.length = t.ents.length + 1 ∧ r.over = decide (t.cap < t.ents.length + 1)) ∧
    (rc.over = false → (r.node : InnerN (Tree h)).ents.length = t.ents.length ∧ r.over = false) := by
  intro r rc
  constructor <;> intro ho <;> simp only [rc] at ho
  · simp only [r, ins, hc, ho, if_true, List.length_append, List.length_set, List.length_singleton, and_self]
  · simp only [r, ins, hc, ho, Bool.false_eq_true, if_false, List.length_set, and_self]

end BB
