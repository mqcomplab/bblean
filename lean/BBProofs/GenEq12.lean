/-
GenEq12 — `multiround._get_files_range_tuples`, as translated (a `for i, file in enumerate(files)` loop with a
running index), against the model's `fileTuples`: the task label of file `i` is `str(i).zfill(len(str(len(files))))`, its
global index range starts where the previous file's range ends, the first at 0.  Files are handles; the number of rows of a
file (`_get_fps_file_num(file)`, read from the file header) is an input list.
-/
import BBProofs.GenEq
import BBModel.Multiround

namespace BB
open PV BB.MR

/-- the flat list `label, file, start, end` per file, from position `i` and running index `s` -/
def tuplesFrom (z : Nat) : Nat → Nat → List (Nat × Nat) → List PV
  | _, _, [] => []
  | i, s, (h, c) :: r => [PV.str (zfill z i), PV.int h, PV.int s, PV.int ((s + c : Nat) : Int)] ++ tuplesFrom z (i + 1) (s + c) r

theorem fold_tuples (z : Nat) (cs : List Nat) (f : List PV × List PV → Nat × Nat → List PV × List PV)
    (hstep : ∀ (i h run : Nat) (acc : List PV) (hi : i < cs.length),
      f ([PV.int run], acc) (h, i) = ([PV.int ((run + cs[i] : Nat) : Int)],
        acc ++ [PV.str (zfill z i), PV.int h, PV.int run, PV.int ((run + cs[i] : Nat) : Int)])) :
    ∀ (hs : List Nat) (k run : Nat) (acc : List PV), k + hs.length = cs.length →
      ((hs.zipIdx k).foldl f ([PV.int run], acc)).2 = acc ++ tuplesFrom z k run (hs.zip (cs.drop k)) := by
  intro hs
  induction hs with
  | nil => intro k run acc _; simp [tuplesFrom]
  | cons h hs ih =>
    intro k run acc hk
    have hkl : k < cs.length := by simp at hk; omega
    rw [List.zipIdx_cons, List.foldl_cons, hstep k h run acc hkl, ih (k + 1) (run + cs[k]) _ (by simp at hk ⊢; omega)]
    have hd : cs.drop k = cs[k] :: cs.drop (k + 1) := (List.drop_eq_getElem_cons hkl)
    rw [hd, List.zip_cons_cons, tuplesFrom]
    simp [List.append_assoc]

theorem gen_file_tuples (expf : Rat → Rat) (hs cs : List Nat) (hlen : hs.length = cs.length) :
    BBGen._get_files_range_tuples expf (PV.arr .big hs) (PV.arr .big cs)
      = tuplesFrom (toString hs.length).length 0 0 (hs.zip cs) := by
  simp only [BBGen._get_files_range_tuples, pv]
  refine (fold_tuples (toString hs.length).length cs _ ?hstep hs 0 0 [] ?hl).trans ?fin
  case hl => simpa using hlen
  case fin => simp
  case hstep =>
    intro i h run acc hi
    have hz : String.ofList (List.replicate ((toString hs.length).length - (toString i).length) '0') ++ toString i
        = MR.zfill (toString hs.length).length i := rfl
    simp only [pv, getAt_nat _ _ _ hi, hz, Nat.cast_add]

/-- running start indices -/
def startsFrom {α : Type} : Nat → List (List α) → List Nat
  | _, [] => []
  | s, f :: r => s :: startsFrom (s + f.length) r

theorem foldl_starts {α : Type} (files : List (List α)) :
    ∀ (pre : List Nat) (s : Nat),
      (files.foldl (fun (acc : List Nat × Nat) f => (acc.1 ++ [acc.2], acc.2 + f.length)) (pre, s)).1
        = pre ++ startsFrom s files := by
  induction files with
  | nil => intro pre s; simp [startsFrom]
  | cons f r ih => intro pre s; simp [List.foldl_cons, ih, startsFrom]

theorem fileTuples_eq (files : List (List Row)) :
    fileTuples files = ((files.zip (startsFrom 0 files)).zipIdx.map
      (fun x => (zfill (toString files.length).length x.2, x.1.1, x.1.2))) := by
  unfold fileTuples
  simp only [foldl_starts files [] 0, List.nil_append]

theorem tuples_of_model (z : Nat) (files : List (List Row)) :
    ∀ (hs : List Nat) (k s : Nat), hs.length = files.length →
      tuplesFrom z k s (hs.zip (files.map List.length))
        = ((((files.zip (startsFrom s files)).zipIdx k).map (fun x => (zfill z x.2, x.1.1, x.1.2))).zip hs).flatMap
            (fun t => [PV.str t.1.1, PV.int t.2, PV.int t.1.2.2, PV.int ((t.1.2.2 + t.1.2.1.length : Nat) : Int)]) := by
  induction files with
  | nil => intro hs k s h; cases hs <;> simp_all [tuplesFrom, startsFrom]
  | cons f r ih =>
    intro hs k s h
    cases hs with
    | nil => simp at h
    | cons x xs =>
      simp only [List.map_cons, List.zip_cons_cons, tuplesFrom, startsFrom, List.zipIdx_cons, List.flatMap_cons]
      rw [ih xs (k + 1) (s + f.length) (by simpa using h)]

/-- label, start and end of every input file as `fileTuples` computes them, file `i` being the handle `hs[i]` -/
theorem gen_file_tuples_model (expf : Rat → Rat) (files : List (List Row)) (hs : List Nat) (hlen : hs.length = files.length) :
    BBGen._get_files_range_tuples expf (PV.arr .big hs) (PV.arr .big (files.map List.length))
      = ((fileTuples files).zip hs).flatMap
          (fun t => [PV.str t.1.1, PV.int t.2, PV.int t.1.2.2, PV.int ((t.1.2.2 + t.1.2.1.length : Nat) : Int)]) := by
  rw [gen_file_tuples expf hs (files.map List.length) (by simpa using hlen), fileTuples_eq,
    tuples_of_model _ files hs 0 0 hlen, hlen]

end BB
