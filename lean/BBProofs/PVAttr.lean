import Lean.Meta.Tactic.Simp.RegisterCommand

/-- evaluation equations, oriented left to right: of the value algebra `BB.PV` on constructor forms (BBProofs/PyNum.lean)
and of the generated class-dispatch functions on the objects `objOf` (BBProofs/GenEq4.lean) -/
register_simp_attr pv
