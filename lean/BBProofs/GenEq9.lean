/-
GenEq9 — `multiround._pickle_dump_atomic`, as translated: the object is pickled into a sibling file
`<name>.tmp`, that file is closed, and only then the final name is bound by `os.replace`.  The final path is the opaque token
`"path"`; `path.parent` and `path.name` are inputs.
-/
import BBProofs.GenEq

namespace BB
open PV

theorem gen_dump_atomic (expf : Rat → Rat) (obj : PV) (parent name : String) :
    BBGen._pickle_dump_atomic expf obj (PV.str name) (PV.str parent)
      = [PV.str "open", PV.str (parent ++ "/" ++ (name ++ ".tmp")), PV.str "wb",
         PV.str "pickle.dump", PV.str (parent ++ "/" ++ (name ++ ".tmp")), PV.str "obj",
         PV.str "close", PV.str (parent ++ "/" ++ (name ++ ".tmp")),
         PV.str "os.replace", PV.str (parent ++ "/" ++ (name ++ ".tmp")), PV.str "path"] := by
  simp only [BBGen._pickle_dump_atomic, pv]

/-- the final name holds what it held before (`old`), an incompletely written new object (`torn`), or the complete new
object (`new`) -/
inductive FinalC | old | torn | new
  deriving DecidableEq, Repr

/-- the temporary name -/
inductive TmpC | absent | torn | full
  deriving DecidableEq, Repr

/-- effect records read as steps on (final name, temporary name); returns the states after every record.  An `open(…, "wb")`
of the final name itself would truncate it (`torn`); a `pickle.dump` is complete only when its record is passed — a crash
inside it is a prefix that ends before the record.  An unknown record ends the reading. -/
def pubTrace (tmp : String) (st : FinalC × TmpC) (l : List PV) : List (FinalC × TmpC) :=
  match l with
  | PV.str "open" :: PV.str p :: PV.str _ :: rest =>
    let st' := if p = tmp then (st.1, TmpC.torn) else if p = "path" then (FinalC.torn, st.2) else st
    st' :: pubTrace tmp st' rest
  | PV.str "pickle.dump" :: PV.str p :: _ :: rest =>
    let st' := if p = tmp then (st.1, TmpC.full) else if p = "path" then (FinalC.new, st.2) else st
    st' :: pubTrace tmp st' rest
  | PV.str "close" :: _ :: rest => st :: pubTrace tmp st rest
  | PV.str "os.replace" :: PV.str a :: PV.str b :: rest =>
    let st' := if a = tmp ∧ b = "path" then
        ((match st.2 with | .full => FinalC.new | .torn => FinalC.torn | .absent => st.1), TmpC.absent) else st
    st' :: pubTrace tmp st' rest
  | _ => []
termination_by l.length
decreasing_by all_goals (simp only [List.length_cons]; omega)

theorem path_ne (parent x : String) : "path" ≠ parent ++ "/" ++ x :=
  ne_path_of_no_slash (by decide) parent x

/-- along the effects of the translated `_pickle_dump_atomic` the final name holds its old content up to the last record
and the complete new object after it, never a torn file; any interruption leaves a prefix of these states behind -/
theorem gen_dump_atomic_trace (expf : Rat → Rat) (obj : PV) (parent name : String) :
    pubTrace (parent ++ "/" ++ (name ++ ".tmp")) (FinalC.old, TmpC.absent)
        (BBGen._pickle_dump_atomic expf obj (PV.str name) (PV.str parent))
      = [(FinalC.old, TmpC.torn), (FinalC.old, TmpC.full), (FinalC.old, TmpC.full), (FinalC.new, TmpC.absent)] := by
  rw [gen_dump_atomic]
  simp [pubTrace]

end BB
