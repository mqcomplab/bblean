/-
The merge closure `MC`: whatever the tree does with a batch of sub-clusters,
the resulting leaf clusters arise from (old leaf clusters + the batch) by a sequence of accepted
pairwise merges, so nothing is dropped, duplicated or taken apart; partition, exact summaries,
threshold bound and coarsening are consequences of this one fact.  Then policy validity, the
leaf-cluster multiset `lclus`, the structural invariant `Shape`, and what `insertLeaf` and `splitNode`
do to them: the node-level cases of `ins_spec` (BBProofs/StateInv.lean).
-/
import BBModel.Estimator
import Mathlib.Data.Multiset.Basic
import Mathlib.Data.Multiset.Bind
import Mathlib.Algebra.BigOperators.Group.Multiset.Basic
import Mathlib.Tactic.Abel

namespace BB

/-! ### list helpers -/

theorem sum_eraseIdx {α M : Type} [AddCommMonoid M] (g : α → M) {l : List α} {i : Nat} {c : α}
    (hc : l[i]? = some c) : (l.map g).sum = ((l.eraseIdx i).map g).sum + g c := by
  obtain ⟨hi, rfl⟩ := List.getElem?_eq_some_iff.mp hc
  rw [← List.add_sum_eraseIdx (l := l.map g) (i := i) (by simpa using hi) (fun _ _ => AddCommute.all _ _),
    List.eraseIdx_map, List.getElem_map, add_comm]

theorem sum_set_eraseIdx {α M : Type} [AddCommMonoid M] (g : α → M) {l : List α} {i : Nat} {c : α}
    (hc : l[i]? = some c) (x : α) : ((l.set i x).map g).sum = ((l.eraseIdx i).map g).sum + g x := by
  have hi := (List.getElem?_eq_some_iff.mp hc).1
  rw [sum_eraseIdx g (l := l.set i x) (i := i) (c := x) (by simp [hi]), List.eraseIdx_set_eq]

theorem sum_set {α M : Type} [AddCommMonoid M] (g : α → M) (l : List α) (i : Nat) (c x : α)
    (hc : l[i]? = some c) : ((l.set i x).map g).sum + g c = (l.map g).sum + g x := by
  rw [sum_set_eraseIdx g hc x, sum_eraseIdx g hc, add_right_comm]

theorem splitBy_perm {α : Type} (m : List Bool) (xs : List α) :
    ((splitBy m xs).1 ++ (splitBy m xs).2).Perm xs := by
  induction xs generalizing m with
  | nil => cases m <;> simp [splitBy]
  | cons x xs ih =>
    cases m with
    | nil => simp [splitBy]
    | cons b m =>
      simp only [splitBy]
      have := ih m
      cases b
      · simp only [Bool.false_eq_true, ↓reduceIte]
        exact (List.perm_middle).trans (List.Perm.cons x this)
      · simp only [↓reduceIte, List.cons_append]
        exact List.Perm.cons x this

theorem splitBy_sum {α M : Type} [AddCommMonoid M] (g : α → M) (m : List Bool) (xs : List α) :
    ((splitBy m xs).1.map g).sum + ((splitBy m xs).2.map g).sum = (xs.map g).sum := by
  rw [← List.sum_append, ← List.map_append]
  exact ((splitBy_perm m xs).map g).sum_eq

theorem splitBy_length {α : Type} (m : List Bool) (xs : List α) :
    (splitBy m xs).1.length + (splitBy m xs).2.length = xs.length := by
  have := (splitBy_perm m xs).length_eq
  simpa using this

theorem mem_splitBy {α : Type} (m : List Bool) (xs : List α) (x : α) :
    x ∈ (splitBy m xs).1 ∨ x ∈ (splitBy m xs).2 ↔ x ∈ xs := by
  rw [← List.mem_append]; exact (splitBy_perm m xs).mem_iff

theorem splitBy_fst_ne_nil {α : Type} (m : List Bool) (xs : List α) (hl : m.length = xs.length)
    (ht : true ∈ m) : (splitBy m xs).1 ≠ [] := by
  induction xs generalizing m with
  | nil => cases m <;> simp_all
  | cons x xs ih =>
    cases m with
    | nil => simp at ht
    | cons b m =>
      simp only [splitBy]
      cases b
      · simp only [Bool.false_eq_true, ↓reduceIte]
        apply ih m (by simpa using hl)
        simpa using ht
      · simp

theorem splitBy_snd_ne_nil {α : Type} (m : List Bool) (xs : List α) (hl : m.length = xs.length)
    (hf : false ∈ m) : (splitBy m xs).2 ≠ [] := by
  induction xs generalizing m with
  | nil => cases m <;> simp_all
  | cons x xs ih =>
    cases m with
    | nil => simp at hf
    | cons b m =>
      simp only [splitBy]
      cases b
      · simp
      · simp only [↓reduceIte]
        apply ih m (by simpa using hl)
        simpa using hf

theorem splitBy_lengths {α : Type} (m : List Bool) (xs : List α) (hl : m.length = xs.length)
    (ht : true ∈ m) (hf : false ∈ m) :
    1 ≤ (splitBy m xs).1.length ∧ 1 ≤ (splitBy m xs).2.length ∧
      (splitBy m xs).1.length + (splitBy m xs).2.length = xs.length :=
  ⟨List.length_pos_iff.mpr (splitBy_fst_ne_nil m xs hl ht), List.length_pos_iff.mpr (splitBy_snd_ne_nil m xs hl hf),
    splitBy_length m xs⟩

theorem forall_set_append {α : Type} {p : α → Prop} {l : List α} (i : Nat) {x : α} {rest : List α}
    (hl : ∀ a ∈ l, p a) (hx : p x) (hr : ∀ a ∈ rest, p a) : ∀ a ∈ l.set i x ++ rest, p a := by
  intro a ha
  rcases List.mem_append.mp ha with ha | ha
  · rcases List.mem_or_eq_of_mem_set ha with ha | rfl
    · exact hl a ha
    · exact hx
  · exact hr a ha

/-! ### the merge closure -/

/-- `N` arises from `M` by accepted pairwise merges -/
inductive MC (acc : Clu → Clu → Prop) : Multiset Clu → Multiset Clu → Prop
  | refl (M : Multiset Clu) : MC acc M M
  | step {M rest : Multiset Clu} {c s : Clu} :
      MC acc M (rest + {c} + {s}) → acc c s → MC acc M (rest + {c.merge s})

/-- the merges a policy accepts, as the relation `MC` closes under -/
def Policy.acc (P : Policy) : Clu → Clu → Prop := fun c s => P.accept c s = true

namespace MC
variable {acc : Clu → Clu → Prop}

theorem trans {A B C : Multiset Clu} (h1 : MC acc A B) (h2 : MC acc B C) : MC acc A C := by
  induction h2 with
  | refl => exact h1
  | step _ ha ih => exact MC.step ih ha

theorem frame {A B : Multiset Clu} (R : Multiset Clu) (h : MC acc A B) : MC acc (A + R) (B + R) := by
  induction h with
  | refl => exact MC.refl _
  | @step rest c s _ ha ih =>
    have e1 : rest + {c} + {s} + R = (rest + R) + {c} + {s} := by abel
    have e2 : rest + {c.merge s} + R = (rest + R) + {c.merge s} := by abel
    rw [e2]
    rw [e1] at ih
    exact MC.step ih ha

theorem frame_left {A B : Multiset Clu} (R : Multiset Clu) (h : MC acc A B) : MC acc (R + A) (R + B) := by
  rw [add_comm R, add_comm R]; exact h.frame R

theorem mono {acc' : Clu → Clu → Prop} (hsub : ∀ c s, acc c s → acc' c s) {A B : Multiset Clu}
    (h : MC acc A B) : MC acc' A B := by
  induction h with
  | refl => exact MC.refl _
  | step _ ha ih => exact MC.step ih (hsub _ _ ha)

end MC

/-- all member labels of a multiset of clusters -/
def idsOf (M : Multiset Clu) : Multiset Nat := (M.map (fun c => (c.ids : Multiset Nat))).sum

@[simp] theorem idsOf_zero : idsOf 0 = 0 := by simp [idsOf]
@[simp] theorem idsOf_add (A B : Multiset Clu) : idsOf (A + B) = idsOf A + idsOf B := by simp [idsOf]
@[simp] theorem idsOf_singleton (c : Clu) : idsOf {c} = (c.ids : Multiset Nat) := by simp [idsOf]

theorem idsOf_coe (l : List Clu) :
    idsOf (l : Multiset Clu) = (l.map (fun c => (c.ids : Multiset Nat))).sum := by
  simp [idsOf]

theorem idsOf_list_sum (l : List (Multiset Clu)) : idsOf l.sum = (l.map idsOf).sum := by
  induction l with
  | nil => simp
  | cons a l ih => simp [ih]

theorem idsOf_eq_flatten (l : List Clu) :
    idsOf (l : Multiset Clu) = ((l.map (·.ids)).flatten : List Nat) := by
  rw [← Multiset.coe_join, List.map_map]; rfl

theorem mem_idsOf_iff {M : Multiset Clu} {i : Nat} : i ∈ idsOf M ↔ ∃ c ∈ M, i ∈ c.ids := by
  show i ∈ Multiset.join _ ↔ _
  simp [Multiset.mem_join]

theorem merge_ids (c s : Clu) : (c.merge s).ids = c.ids ++ s.ids := rfl
theorem Clu.update_ids (c s : Clu) : (c.update s).ids = c.ids ++ s.ids := rfl

theorem MC.ids {acc : Clu → Clu → Prop} {A B : Multiset Clu} (h : MC acc A B) : idsOf B = idsOf A := by
  induction h with
  | refl => rfl
  | step _ _ ih =>
    rw [← ih]
    simp only [idsOf_add, idsOf_singleton, merge_ids, ← Multiset.coe_add, add_assoc]

theorem MC.forall {acc : Clu → Clu → Prop} (Q : Clu → Prop)
    (hm : ∀ c s, Q c → Q s → acc c s → Q (c.merge s)) {A B : Multiset Clu} (h : MC acc A B)
    (hA : ∀ c ∈ A, Q c) : ∀ c ∈ B, Q c := by
  induction h with
  | refl => exact hA
  | @step rest c s _ ha ih =>
    intro x hx
    rcases Multiset.mem_add.mp hx with hx | hx
    · exact ih x (by simp [hx])
    · rw [Multiset.mem_singleton] at hx
      subst hx
      exact hm c s (ih c (by simp)) (ih s (by simp)) ha

theorem MC.coarsens {acc : Clu → Clu → Prop} {A B : Multiset Clu} (h : MC acc A B) :
    ∀ a ∈ A, ∃ b ∈ B, ∀ i ∈ a.ids, i ∈ b.ids := by
  induction h with
  | refl => intro a ha; exact ⟨a, ha, fun i hi => hi⟩
  | @step rest c s _ _ ih =>
    intro a ha
    obtain ⟨b, hb, hsub⟩ := ih a ha
    rcases Multiset.mem_add.mp hb with hb | hb
    · rcases Multiset.mem_add.mp hb with hb | hb
      · exact ⟨b, by simp [hb], hsub⟩
      · rw [Multiset.mem_singleton] at hb; subst hb
        exact ⟨b.merge s, by simp, fun i hi => by rw [merge_ids]; exact List.mem_append_left _ (hsub i hi)⟩
    · rw [Multiset.mem_singleton] at hb; subst hb
      exact ⟨c.merge b, by simp, fun i hi => by rw [merge_ids]; exact List.mem_append_right _ (hsub i hi)⟩

/-- what every theorem about the tree needs from the three decisions -/
structure Policy.Valid (P : Policy) : Prop where
  route_lt : ∀ cache c, cache ≠ [] → P.route cache c < cache.length
  mask_len : ∀ cache, (P.mask cache).length = cache.length
  mask_true : ∀ cache, 2 ≤ cache.length → true ∈ P.mask cache
  mask_false : ∀ cache, 2 ≤ cache.length → false ∈ P.mask cache

/-- the multiset of leaf sub-clusters -/
def lclus : (h : Nat) → Tree h → Multiset Clu
  | 0, (l : LeafN) => (l.subs : Multiset Clu)
  | h+1, (t : InnerN (Tree h)) => (t.ents.map (fun e => lclus h e.2)).sum

/-- structural invariant: caches as long as the entry lists, capacities ≥ 1, inner nodes non-empty.  With a
capacity ≥ 1 an over-full node holds two entries, enough to split it into non-empty halves; `WFT` and `EInv.bf` say
≥ 2, since a node is to hold no more entries than its capacity and a new root starts with two -/
def Shape : (h : Nat) → Tree h → Prop
  | 0, (l : LeafN) => l.cache.length = l.subs.length ∧ 1 ≤ l.cap
  | h+1, (t : InnerN (Tree h)) =>
    t.cache.length = t.ents.length ∧ 1 ≤ t.cap ∧ t.ents ≠ [] ∧ ∀ e ∈ t.ents, Shape h e.2

def nEnts : (h : Nat) → Tree h → Nat
  | 0, (l : LeafN) => l.subs.length
  | _+1, (t : InnerN _) => t.ents.length

def capOf : (h : Nat) → Tree h → Nat
  | 0, (l : LeafN) => l.cap
  | _+1, (t : InnerN _) => t.cap

variable (P : Policy)

theorem lclus_splitNode : ∀ (h : Nat) (t : Tree h) (next : Nat),
    lclus h (splitNode P h t next).t1 + lclus h (splitNode P h t next).t2 = lclus h t
  | 0, (l : LeafN), next => by
    simp only [splitNode, lclus]
    rw [Multiset.coe_add]
    exact Multiset.coe_eq_coe.mpr (splitBy_perm _ _)
  | h+1, (t : InnerN (Tree h)), next => by
    simp only [splitNode, lclus]
    exact splitBy_sum (fun (e : Clu × Tree h) => lclus h e.2) _ _

/-- the second case does not arise for a valid policy and a cache as long as the entry list (`lclus_insertLeaf`) -/
theorem insertLeaf_eq (l : LeafN) (s : Clu) (next : Nat) :
    (l.subs = [] ∧ insertLeaf P l s next = ⟨{ l with subs := [s], cache := [s.cent] }, false, none, next⟩) ∨
    (l.subs ≠ [] ∧ l.subs[P.route l.cache s.cent]? = none ∧ insertLeaf P l s next = ⟨l, false, none, next⟩) ∨
    (∃ c, l.subs[P.route l.cache s.cent]? = some c ∧ P.accept c s = true ∧
      insertLeaf P l s next = ⟨{ l with
        subs := l.subs.set (P.route l.cache s.cent) (c.merge s)
        cache := l.cache.set (P.route l.cache s.cent) (c.merge s).cent }, false, none, next⟩) ∨
    (∃ c, l.subs[P.route l.cache s.cent]? = some c ∧ P.accept c s = false ∧
      insertLeaf P l s next = ⟨{ l with subs := l.subs ++ [s], cache := l.cache ++ [s.cent] },
        decide (l.cap < l.subs.length + 1), none, next⟩) := by
  unfold insertLeaf
  cases h0 : l.subs with
  | nil => exact .inl ⟨rfl, by simp⟩
  | cons a as =>
    rw [← h0]
    have hne : l.subs ≠ [] := by simp [h0]
    cases hc : l.subs[P.route l.cache s.cent]? with
    | none => exact .inr (.inl ⟨hne, rfl, by simp [hne, hc]⟩)
    | some c =>
      cases ha : P.accept c s
      · exact .inr (.inr (.inr ⟨c, rfl, ha, by simp [hne, hc, ha]⟩))
      · exact .inr (.inr (.inl ⟨c, rfl, ha, by simp [hne, hc, ha]⟩))

theorem lclus_insertLeaf (hP : P.Valid) {l : LeafN} (hs : l.cache.length = l.subs.length) (s : Clu) (next : Nat) :
    MC P.acc ((l.subs : Multiset Clu) + {s}) ((insertLeaf P l s next).node.subs : Multiset Clu) := by
  rcases insertLeaf_eq P l s next with ⟨h0, e⟩ | ⟨hne, hn, e⟩ | ⟨c, hc, ha, e⟩ | ⟨c, hc, ha, e⟩ <;> rw [e] <;> simp only
  · rw [h0]; exact MC.refl _
  · have hi := hP.route_lt l.cache s.cent (by rw [← List.length_pos_iff, hs, List.length_pos_iff]; exact hne)
    rw [List.getElem?_eq_none_iff] at hn
    omega
  · -- the other entries, `c` and `s` become the other entries and `c.merge s`
    obtain ⟨hlt, rfl⟩ := List.getElem?_eq_some_iff.mp hc
    rw [← Multiset.coe_eq_coe.mpr (List.getElem_cons_eraseIdx_perm hlt),
      Multiset.coe_eq_coe.mpr (List.set_perm_cons_eraseIdx hlt _), ← Multiset.cons_coe, ← Multiset.cons_coe,
      ← Multiset.singleton_add, ← Multiset.singleton_add, add_comm {_}, add_comm {_}]
    exact MC.step (MC.refl _) ha
  · rw [← Multiset.coe_add]; exact MC.refl _

theorem lclus_eraseIdx {h : Nat} {t : InnerN (Tree h)} {i : Nat} {c : Clu} {child : Tree h}
    (hc : t.ents[i]? = some (c, child)) :
    lclus (h+1) t = ((t.ents.eraseIdx i).map (fun e => lclus h e.2)).sum + lclus h child := by
  simp only [lclus]
  exact sum_eraseIdx (fun (e : Clu × Tree h) => lclus h e.2) hc

theorem Shape.route_some (hP : P.Valid) {h : Nat} {t : InnerN (Tree h)} (hs : Shape (h+1) t) (cent : Row) :
    ∃ c child, t.ents[P.route t.cache cent]? = some (c, child) ∧ (c, child) ∈ t.ents := by
  obtain ⟨hl, _, hne, _⟩ := hs
  have hc : t.cache ≠ [] := by
    intro h0; rw [h0] at hl; exact hne (List.length_eq_zero_iff.mp hl.symm)
  have hi := hP.route_lt t.cache cent hc
  rw [hl] at hi
  refine ⟨(t.ents[P.route t.cache cent]).1, (t.ents[P.route t.cache cent]).2, ?_, ?_⟩
  · simp [List.getElem?_eq_getElem hi]
  · exact List.getElem_mem hi

theorem splitNode_shape (hP : P.Valid) {h : Nat} {t : Tree h} (hs : Shape h t) (h2 : 2 ≤ nEnts h t) (next : Nat) :
    Shape h (splitNode P h t next).t1 ∧ Shape h (splitNode P h t next).t2 :=
  match h, t, hs, h2 with
  | 0, (l : LeafN), hs, _ => by
    simp only [splitNode, Shape, List.length_map, true_and]
    exact ⟨hs.2, hs.2⟩
  | h+1, (t : InnerN (Tree h)), hs, h2 => by
    obtain ⟨hl, hcap, _, hall⟩ := hs
    simp only [nEnts] at h2
    have hm : (P.mask t.cache).length = t.ents.length := by rw [hP.mask_len, hl]
    have h2' : 2 ≤ t.cache.length := by rw [hl]; exact h2
    simp only [splitNode, Shape, List.length_map, true_and]
    refine ⟨⟨hcap, splitBy_fst_ne_nil _ _ hm (hP.mask_true _ h2'), ?_⟩,
            ⟨hcap, splitBy_snd_ne_nil _ _ hm (hP.mask_false _ h2'), ?_⟩⟩
    · intro e he; exact hall e ((mem_splitBy _ _ e).mp (Or.inl he))
    · intro e he; exact hall e ((mem_splitBy _ _ e).mp (Or.inr he))

theorem insertLeaf_shape {l : LeafN} (hs : Shape 0 l) (s : Clu) (next : Nat) :
    Shape 0 (insertLeaf P l s next).node ∧
      ((insertLeaf P l s next).over = true → 2 ≤ nEnts 0 (insertLeaf P l s next).node) := by
  obtain ⟨hl, hcap⟩ := hs
  rcases insertLeaf_eq P l s next with ⟨_, e⟩ | ⟨_, _, e⟩ | ⟨_, _, _, e⟩ | ⟨_, _, _, e⟩ <;> rw [e] <;>
    simp only [Shape, nEnts, List.length_set, List.length_append, List.length_singleton, hl, hcap, decide_eq_true_eq,
      and_self, true_and, Bool.false_eq_true, false_imp_iff]
  intro h; omega

end BB
