/-
GenEq11 — `parse_num_per_batch` (nested in `cli._fps_from_smiles`), as translated, is the model's
`numPerBatch`.  The code computes `math.ceil(smiles_num / parts)` through a float division; `ceil_truediv` shows that for
counts below 2^53 this is the exact ceiling of the quotient.
-/
import BBProofs.GenEq
import BBProofs.Fl
import BBProofs.FileSeq
import Mathlib.Algebra.Order.Floor.Ring
import Mathlib.Tactic.Linarith
import Mathlib.Tactic.Positivity

namespace BB
open PV BB.Files

theorem ceilDiv_bounds (a b : Nat) (hb : 0 < b) :
    a ≤ ceilDiv a b * b ∧ (ceilDiv a b : Int) * b < a + b := by
  refine ⟨Nat.not_lt.1 (fun h => Nat.lt_irrefl _ ((lt_ceilDiv_iff hb).2 h)), ?_⟩
  have : ceilDiv a b * b < a + b := by
    rcases Nat.eq_zero_or_pos (ceilDiv a b) with h | h
    · rw [h, Nat.zero_mul]; omega
    · have := (lt_ceilDiv_iff (a := a) hb).1 (Nat.sub_lt h Nat.one_pos)
      rw [Nat.sub_mul, Nat.one_mul] at this
      omega
  exact_mod_cast this
theorem ceilDiv_le_self (a b : Nat) (hb : 0 < b) : ceilDiv a b ≤ a :=
  Nat.not_lt.1 (fun h => absurd ((lt_ceilDiv_iff hb).1 h) (Nat.not_lt.2 (Nat.le_mul_of_pos_right a hb)))

/-- float division then `math.ceil` = the exact ceiling, for a numerator below 2^53: a non-integral quotient `a/b` lies at
least `1/b` above the integer below it, and the rounding error `2^-53·a/b` is smaller than that -/
theorem ceil_rnd_div (a b : Nat) (hb : 0 < b) (ha : a < 2 ^ 53) :
    -((-(rnd ((a : Rat) / (b : Rat)))).floor) = (ceilDiv a b : Int) := by
  obtain ⟨h1, h2⟩ := ceilDiv_bounds a b hb
  have hc53 : ceilDiv a b < 2 ^ 53 := lt_of_le_of_lt (ceilDiv_le_self a b hb) ha
  set c := ceilDiv a b
  have hbq : (0 : Rat) < b := by exact_mod_cast hb
  have hx0 : (0 : Rat) ≤ (a : Rat) / b := div_nonneg (Nat.cast_nonneg a) (Nat.cast_nonneg b)
  have hup : rnd ((a : Rat) / b) ≤ c := by
    rw [← rnd_natCast_of_lt c hc53]
    exact rnd_mono (by rw [div_le_iff₀ hbq]; exact_mod_cast h1)
  have hx_ge : (c : Rat) - 1 + 1 / b ≤ (a : Rat) / b := by
    rw [le_div_iff₀ hbq, add_mul, sub_mul, one_mul, div_mul_cancel₀ _ hbq.ne']
    have : (c : Rat) * b + 1 ≤ a + b := by exact_mod_cast (show (c : Int) * b + 1 ≤ a + b from h2)
    exact (sub_add_eq_add_sub _ _ _).le.trans (sub_le_iff_le_add.2 this)
  have hsmall : (2 : Rat) ^ (-53 : Int) * ((a : Rat) / b) < 1 / b := by
    rw [← mul_div_assoc]
    refine div_lt_div_of_pos_right ?_ hbq
    rw [zpow_neg, inv_mul_lt_iff₀ (by norm_num), mul_one]
    exact_mod_cast ha
  have hlow : (c : Rat) - 1 < rnd ((a : Rat) / b) := by
    have herr := (abs_le.mp (rnd_relErr ((a : Rat) / b))).1
    rw [abs_of_nonneg hx0] at herr
    exact (le_sub_iff_add_le.2 hx_ge).trans_lt ((sub_lt_sub_left hsmall _).trans_le
      (sub_le_iff_le_add.2 (neg_le_sub_iff_le_add.1 herr)))
  have : Int.ceil (rnd ((a : Rat) / b)) = (c : Int) :=
    Int.ceil_eq_iff.mpr ⟨by exact_mod_cast hlow, by exact_mod_cast hup⟩
  rw [show (-rnd ((a : Rat) / b)).floor = ⌊-rnd ((a : Rat) / b)⌋ from rfl, Int.floor_neg, neg_neg, this]

/-- an optional count as a Python value -/
def onat : Option Nat → PV
  | some n => PV.int n
  | none => PV.pynone

theorem onat_eq (o : Option Nat) : onat o = optNatPV o := by cases o <;> rfl

theorem ceil_truediv (a b : Nat) (hb : 0 < b) (ha : a < 2 ^ 53) :
    PV.ceilF (PV.truediv (PV.int a) (PV.int b)) = PV.int (ceilDiv a b) := by
  rw [truediv_nat a b hb, ceilF_flt, ceil_rnd_div a b hb ha]

/-- `parts = 0` / `max_fps_per_file = 0` make the code raise `ZeroDivisionError`; the command line rejects them before -/
theorem gen_num_per_batch (expf : Rat → Rat) (total : Nat) (parts maxPer : Option Nat) (ht : total < 2 ^ 53)
    (hp : ∀ p, parts = some p → 0 < p) (hm : ∀ m, maxPer = some m → 0 < m) :
    BBGen.parse_num_per_batch expf (PV.int total) (onat parts) (onat maxPer)
      = match numPerBatch total parts maxPer with
        | none => [PV.err "ValueError"]
        | some (p, per, dg) => [PV.int p, PV.int per, onat dg] := by
  simp only [BBGen.parse_num_per_batch, numPerBatch, onat_eq]
  cases parts with
  | some p =>
    cases maxPer with
    | some m => simp only [pv, Option.isNone_some]
    | none => simp only [pv, optNatPV, ceil_truediv total p (hp p rfl) ht]
  | none =>
    cases maxPer with
    | some m => simp only [pv, optNatPV, ceil_truediv total m (hm m rfl) ht]
    | none =>
      simp only [pv, optNatPV, ← Nat.cast_one (R := Int), ceil_truediv total 1 Nat.one_pos ht]

end BB
