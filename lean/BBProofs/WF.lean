/-
Tree well-formedness (property C08).  `WFT D h t slack`: a node holds at most `cap` entries (the top node up to
`slack` more) and an inner node at least one, its search cache lists its entries' centroids, every entry is an
exact summary of its member labels, and every entry of an inner node is `EntWF`: the node beneath it is
well-formed, non-empty and holds exactly the entry's labels.  A leaf may be empty: the first insertion starts
from one.  `ins_wf` is the induction over `ins` for `WFT` (it uses `ins_spec` for the labels), `insertUnit_wf_ne`
lifts it to a state; the `wft_all_*` lemmas read the parts of C08 off `WFT` at every node (`AllNodes`).  The
estimator's loops and operations follow in OpsWF.
-/
import BBProofs.StateInv
import BBProofs.Exact

namespace BB

/-- entries of a node as clusters -/
def entClus : (h : Nat) → Tree h → List Clu
  | 0, (l : LeafN) => l.subs
  | _+1, (t : InnerN _) => t.ents.map (·.1)

def cacheOf : (h : Nat) → Tree h → List Row
  | 0, (l : LeafN) => l.cache
  | _+1, (t : InnerN _) => t.cache

/-- well-formed subtree; `slack` = how many entries above its capacity the top node may hold
(0 normally, 1 for the node an insertion just over-filled and its caller is about to split) -/
def WFT (D : Nat → Row) : (h : Nat) → Tree h → Nat → Prop
  | 0, (l : LeafN), slack =>
      l.cache = l.subs.map (·.cent) ∧ 2 ≤ l.cap ∧ l.subs.length ≤ l.cap + slack ∧
      ∀ c ∈ l.subs, Exact D c ∧ 1 ≤ c.n
  | h+1, (t : InnerN (Tree h)), slack =>
      t.cache = t.ents.map (·.1.cent) ∧ 2 ≤ t.cap ∧ 1 ≤ t.ents.length ∧
      t.ents.length ≤ t.cap + slack ∧
      ∀ e ∈ t.ents, WFT D h e.2 0 ∧ 1 ≤ nEnts h e.2 ∧ Exact D e.1 ∧ 1 ≤ e.1.n ∧
        (e.1.ids : Multiset Nat) = idsOf (lclus h e.2)

/-- what an inner node requires of each of its entries `(tracking entry, child)` -/
def EntWF (D : Nat → Row) (h : Nat) (e : Clu × Tree h) : Prop :=
  WFT D h e.2 0 ∧ 1 ≤ nEnts h e.2 ∧ Exact D e.1 ∧ 1 ≤ e.1.n ∧
    (e.1.ids : Multiset Nat) = idsOf (lclus h e.2)

theorem wft_entWF {D : Nat → Row} {h : Nat} {t : InnerN (Tree h)} {k : Nat} (hw : WFT D (h+1) t k)
    {e : Clu × Tree h} (he : e ∈ t.ents) : EntWF D h e := hw.2.2.2.2 e he

theorem wft_succ_iff (D : Nat → Row) (h : Nat) (t : InnerN (Tree h)) (slack : Nat) :
    WFT D (h+1) t slack ↔
      (t.cache = t.ents.map (·.1.cent) ∧ 2 ≤ t.cap ∧ 1 ≤ t.ents.length ∧
        t.ents.length ≤ t.cap + slack ∧ ∀ e ∈ t.ents, EntWF D h e) := Iff.rfl

theorem wft_slack {D : Nat → Row} {h : Nat} {t : Tree h} {a b : Nat} (hw : WFT D h t a)
    (hb : nEnts h t ≤ capOf h t + b) : WFT D h t b :=
  match h, t, hw, hb with
  | 0, (_ : LeafN), hw, hb => ⟨hw.1, hw.2.1, hb, hw.2.2.2⟩
  | _+1, (_ : InnerN _), hw, hb => ⟨hw.1, hw.2.1, hw.2.2.1, hb, fun _ he => wft_entWF hw he⟩

theorem wft_shape {D : Nat → Row} {h : Nat} {t : Tree h} {slack : Nat} (hw : WFT D h t slack) : Shape h t :=
  match h, t, hw with
  | 0, (l : LeafN), ⟨h1, h2, _, _⟩ => ⟨by rw [h1, List.length_map], by omega⟩
  | h+1, (t : InnerN (Tree h)), hw => by
    have ⟨h1, h2, h3, _, _⟩ := hw
    refine ⟨by rw [h1, List.length_map], by omega, ?_, fun e he => wft_shape (wft_entWF hw he).1⟩
    intro h0; rw [h0] at h3; simp at h3

/-- the clauses of `WFT` that read the same for a leaf and an inner node, through the accessors
that do not distinguish them -/
theorem wft_node {D : Nat → Row} {h : Nat} {t : Tree h} {slack : Nat} (hw : WFT D h t slack) :
    cacheOf h t = (entClus h t).map (·.cent) ∧ 2 ≤ capOf h t ∧ nEnts h t ≤ capOf h t + slack ∧
      ∀ c ∈ entClus h t, ExactN D c :=
  match h, t, hw with
  | 0, (_ : LeafN), hw => hw
  | _+1, (t : InnerN _), hw => by
    refine ⟨by simp only [cacheOf, entClus, List.map_map]; exact hw.1, hw.2.1, hw.2.2.2.1,
      fun c hc => ?_⟩
    obtain ⟨e, he, rfl⟩ := List.mem_map.mp hc
    obtain ⟨_, _, cex, cn, _⟩ := wft_entWF hw he
    exact ⟨cex, cn⟩

theorem entClus_length : ∀ (h : Nat) (t : Tree h), (entClus h t).length = nEnts h t
  | 0, (l : LeafN) => rfl
  | _+1, (t : InnerN _) => by simp [entClus, nEnts]

section Node
variable {D : Nat → Row} {h : Nat} {t : Tree h} {slack : Nat}

theorem wft_cap (hw : WFT D h t slack) : 2 ≤ capOf h t := (wft_node hw).2.1

theorem wft_len (hw : WFT D h t slack) : nEnts h t ≤ capOf h t + slack := (wft_node hw).2.2.1

theorem wft_cache (hw : WFT D h t slack) : cacheOf h t = (entClus h t).map (·.cent) := (wft_node hw).1

theorem wft_exactN (hw : WFT D h t slack) : ∀ c ∈ entClus h t, ExactN D c := (wft_node hw).2.2.2

theorem wft_ids (hw : WFT D h t slack) :
    idsOf (lclus h t) = ((entClus h t).map (fun c => (c.ids : Multiset Nat))).sum :=
  match h, t, hw with
  | 0, (l : LeafN), _ => by
    simp only [lclus, entClus]; exact idsOf_coe _
  | h+1, (t : InnerN (Tree h)), hw => by
    simp only [lclus, entClus, idsOf_list_sum, List.map_map]
    congr 1
    apply List.map_congr_left
    intro e he
    exact (wft_entWF hw he).2.2.2.2.symm

end Node

theorem trackOf_ids_coe (cs : List Clu) :
    ((trackOf cs).ids : Multiset Nat) = (cs.map (fun c => (c.ids : Multiset Nat))).sum := by
  rw [trackOf_ids, ← Multiset.coe_join, List.map_map]; rfl

theorem entWF_trackOf {D : Nat → Row} {h : Nat} {t : Tree h} (hw : WFT D h t 0) (hne : 1 ≤ nEnts h t) :
    EntWF D h (trackOf (entClus h t), t) := by
  have hent := wft_exactN hw
  refine ⟨hw, hne, exact_trackOf fun c hc => (hent c hc).1, ?_, by rw [wft_ids hw, trackOf_ids_coe]⟩
  -- every entry counts at least one member
  have := List.length_le_sum_of_one_le ((entClus h t).map (·.n)) fun n hn => by
    obtain ⟨c, hc, rfl⟩ := List.mem_map.mp hn
    exact (hent c hc).2
  rw [trackOf_n]
  rw [List.length_map, entClus_length] at this
  omega

variable (P : Policy)

theorem splitNode_wf (hP : P.Valid) {D : Nat → Row} {h : Nat} {t : Tree h} (hw : WFT D h t 1)
    (h2 : 2 ≤ nEnts h t) (next : Nat) :
    EntWF D h ((splitNode P h t next).c1, (splitNode P h t next).t1) ∧
    EntWF D h ((splitNode P h t next).c2, (splitNode P h t next).t2) :=
  match h, t, hw, h2 with
  | 0, (l : LeafN), hw, h2 => by
    obtain ⟨hc, hcap, hlen, hall⟩ := hw
    have hm : (P.mask l.cache).length = l.subs.length := by rw [hP.mask_len, hc, List.length_map]
    have h2' : 2 ≤ l.cache.length := by rw [hc, List.length_map]; exact h2
    obtain ⟨ha, hb, hab⟩ := splitBy_lengths (P.mask l.cache) l.subs hm (hP.mask_true _ h2')
      (hP.mask_false _ h2')
    exact ⟨entWF_trackOf (t := (splitNode P 0 l next).t1)
        ⟨rfl, hcap, by show (splitBy (P.mask l.cache) l.subs).1.length ≤ l.cap + 0; omega,
          fun c hc => hall c ((mem_splitBy _ _ c).mp (Or.inl hc))⟩ ha,
      entWF_trackOf (t := (splitNode P 0 l next).t2)
        ⟨rfl, hcap, by show (splitBy (P.mask l.cache) l.subs).2.length ≤ l.cap + 0; omega,
          fun c hc => hall c ((mem_splitBy _ _ c).mp (Or.inr hc))⟩ hb⟩
  | h+1, (t : InnerN (Tree h)), hw, h2 => by
    obtain ⟨hc, hcap, _, hlen, hall⟩ := hw
    have hm : (P.mask t.cache).length = t.ents.length := by rw [hP.mask_len, hc, List.length_map]
    have h2' : 2 ≤ t.cache.length := by rw [hc, List.length_map]; exact h2
    obtain ⟨ha, hb, hab⟩ := splitBy_lengths (P.mask t.cache) t.ents hm (hP.mask_true _ h2')
      (hP.mask_false _ h2')
    exact ⟨entWF_trackOf (t := (splitNode P (h+1) t next).t1)
        ⟨rfl, hcap, ha, by show (splitBy (P.mask t.cache) t.ents).1.length ≤ t.cap + 0; omega,
          fun e he => hall e ((mem_splitBy _ _ e).mp (Or.inl he))⟩ ha,
      entWF_trackOf (t := (splitNode P (h+1) t next).t2)
        ⟨rfl, hcap, hb, by show (splitBy (P.mask t.cache) t.ents).2.length ≤ t.cap + 0; omega,
          fun e he => hall e ((mem_splitBy _ _ e).mp (Or.inr he))⟩ hb⟩

/-- what an insertion into a well-formed node returns; `full`: a node reported over-full holds exactly one entry
more than it may, `room`: a node with room left is not reported -/
structure InsWF (D : Nat → Row) (h : Nat) (t : Tree h) (r : InsRes (Tree h)) : Prop where
  wf1 : WFT D h r.node 1
  wf0 : r.over = false → WFT D h r.node 0
  full : r.over = true → nEnts h r.node = capOf h t + 1
  cap : capOf h r.node = capOf h t
  ne : 1 ≤ nEnts h r.node
  room : nEnts h t < capOf h t → r.over = false

theorem InsWF.of {D : Nat → Row} {h : Nat} {t : Tree h} {r : InsRes (Tree h)} {a : Nat}
    (hlen : nEnts h t ≤ capOf h t) (wf : WFT D h r.node a) (cap : capOf h r.node = capOf h t)
    (ne : 1 ≤ nEnts h r.node) (grow : nEnts h r.node ≤ nEnts h t + 1)
    (hover : r.over = decide (capOf h t < nEnts h r.node)) : InsWF D h t r where
  wf1 := wft_slack wf (by omega)
  wf0 := fun h0 => wft_slack wf (by
    rw [hover, decide_eq_false_iff_not] at h0; omega)
  full := fun h1 => by rw [hover, decide_eq_true_eq] at h1; omega
  cap := cap
  ne := ne
  room := fun hr => by rw [hover, decide_eq_false_iff_not]; omega

theorem insertLeaf_wf {D : Nat → Row} {l : LeafN} (hw : WFT D 0 l 0) {s : Clu} (hs : ExactN D s) (next : Nat) :
    InsWF D 0 l (insertLeaf P l s next) := by
  obtain ⟨hc, hcap, hlen, hall⟩ := hw
  have hlen' : nEnts 0 l ≤ capOf 0 l := hlen
  rcases insertLeaf_eq P l s next with ⟨_, e⟩ | ⟨hne, _, e⟩ | ⟨c, hsome, _, e⟩ | ⟨c, hsome, _, e⟩ <;> rw [e]
  · refine InsWF.of (a := 1) hlen' ⟨rfl, hcap, by show 1 ≤ l.cap + 1; omega, ?_⟩ rfl (by simp [nEnts])
      (by simp [nEnts]) (by simp only [nEnts, capOf, List.length_singleton]; exact (decide_eq_false (by omega)).symm)
    intro c hc; rw [List.mem_singleton] at hc; subst hc; exact hs
  · exact InsWF.of hlen' (⟨hc, hcap, hlen, hall⟩ : WFT D 0 l 0) rfl (List.length_pos_iff.mpr hne) (Nat.le_succ _)
      (decide_eq_false (by show ¬ l.cap < l.subs.length; omega)).symm
  · have hcm : c ∈ l.subs := List.mem_of_getElem? hsome
    have hne : 1 ≤ l.subs.length := List.length_pos_of_mem hcm
    refine InsWF.of (a := 0) hlen' ⟨?_, hcap, ?_, ?_⟩ rfl
      (by simp only [nEnts, List.length_set]; exact hne) (by simp [nEnts])
      (by simp only [nEnts, capOf, List.length_set]; exact (decide_eq_false (by omega)).symm)
    · show l.cache.set _ _ = (l.subs.set _ _).map _
      rw [hc, List.map_set]
    · show (l.subs.set _ _).length ≤ l.cap + 0
      rw [List.length_set]; exact hlen
    · intro x hx
      rcases List.mem_or_eq_of_mem_set hx with hx | hx
      · exact hall x hx
      · subst hx
        exact ⟨exact_merge (hall c hcm).1 hs.1, by rw [merge_n]; have := hs.2; omega⟩
  · refine InsWF.of (a := 1) hlen' ⟨?_, hcap, ?_, ?_⟩ rfl (by simp [nEnts]) (by simp [nEnts])
      (by simp [nEnts, capOf])
    · show l.cache ++ [s.cent] = (l.subs ++ [s]).map _
      rw [hc, List.map_append]; rfl
    · show (l.subs ++ [s]).length ≤ l.cap + 1
      simpa using hlen
    · intro x hx
      rcases List.mem_append.mp hx with hx | hx
      · exact hall x hx
      · rw [List.mem_singleton] at hx; subst hx; exact hs

theorem wft_replace_append {D : Nat → Row} {h : Nat} {t : InnerN (Tree h)} (hw : WFT D (h+1) t 0) (i : Nat)
    {e1 : Clu × Tree h} (h1 : EntWF D h e1) (rest : List (Clu × Tree h)) (h2 : ∀ e ∈ rest, EntWF D h e)
    (k : Nat) (hk : t.ents.length + rest.length ≤ t.cap + k) :
    WFT D (h+1) ({ cap := t.cap, ents := t.ents.set i e1 ++ rest,
                   cache := t.cache.set i e1.1.cent ++ rest.map (·.1.cent) } : InnerN (Tree h)) k := by
  obtain ⟨hc, hcap, hne, hlen, hall⟩ := hw
  refine ⟨?_, hcap, ?_, ?_, forall_set_append i hall h1 h2⟩
  · show t.cache.set i e1.1.cent ++ rest.map (·.1.cent) = (t.ents.set i e1 ++ rest).map _
    rw [hc, List.map_append, List.map_set]
  · show 1 ≤ (t.ents.set i e1 ++ rest).length
    rw [List.length_append, List.length_set]; omega
  · show (t.ents.set i e1 ++ rest).length ≤ t.cap + k
    rw [List.length_append, List.length_set]; exact hk

theorem ins_wf (hP : P.Valid) {D : Nat → Row} {h : Nat} {t : Tree h} (hw : WFT D h t 0) {s : Clu}
    (hs : ExactN D s) (next : Nat) : InsWF D h t (ins P h t s next) :=
  match h, t, hw with
  | 0, (l : LeafN), hw => by
    simp only [ins]
    exact insertLeaf_wf P hw hs next
  | h+1, (t : InnerN (Tree h)), hw => by
    obtain ⟨c, child, hsome, hmem⟩ := Shape.route_some P hP (wft_shape hw) s.cent
    have hlen : t.ents.length ≤ t.cap + 0 := wft_len hw
    have hlen' : nEnts (h+1) t ≤ capOf (h+1) t := hlen
    have hne : 1 ≤ t.ents.length := hw.2.2.1
    obtain ⟨cw, cne, cex, cn, cids⟩ := wft_entWF hw hmem
    have ih := ins_wf hP cw hs next
    have hlab := ins_labels P hP (wft_shape cw) s next
    simp only [ins, hsome]
    split
    · rename_i hover
      have hfull := ih.full hover
      have hcc := wft_cap cw
      have hsp := splitNode_wf P hP ih.wf1 (by omega) (ins P h child s next).next
      exact InsWF.of hlen'
        (wft_replace_append hw _ hsp.1 [(_, _)] (by simpa using hsp.2) 1 (by simpa using hlen))
        rfl (by simp [nEnts]) (by simp [nEnts]) (by simp [nEnts, capOf])
    · rename_i hover
      have hover : (ins P h child s next).over = false := by simpa using hover
      have he : EntWF D h (c.update s, (ins P h child s next).node) :=
        ⟨ih.wf0 hover, ih.ne, exact_update cex hs.1, by rw [update_n]; have := hs.2; omega, by
          show ((c.ids ++ s.ids : List Nat) : Multiset Nat) = _
          rw [hlab, ← cids, Multiset.coe_add]⟩
      have w0 := wft_replace_append hw (P.route t.cache s.cent) he [] (by simp) 0 (by simpa using hlen)
      simp only [List.append_nil, List.map_nil] at w0
      exact InsWF.of hlen' w0 rfl (by simp only [nEnts, List.length_set]; exact hne) (by simp [nEnts])
        (by simp only [nEnts, capOf, List.length_set]; exact (decide_eq_false (by omega)).symm)

/-- the tree of a state is well-formed (nothing to say once the internal nodes are released) -/
def TreeSt.WF (D : Nat → Row) : TreeSt → Prop
  | .uninit => True
  | .full h _ root _ _ => WFT D h root 0
  | .leavesOnly _ _ => True

/-- number of entries of the root node (0 when there is no tree) -/
def TreeSt.rootEnts : TreeSt → Nat
  | .full h _ root _ _ => nEnts h root
  | _ => 0

theorem insertRoot_wf (hP : P.Valid) {D : Nat → Row} {bf : Nat} (hbf : 2 ≤ bf) {h : Nat} {root : Tree h}
    (hw : WFT D h root 0) {s : Clu} (hs : ExactN D s) (F : Nat) (chain : List Nat) (next : Nat) :
    (insertRoot P bf h F root chain next s).WF D ∧
      1 ≤ (insertRoot P bf h F root chain next s).rootEnts := by
  have hi := ins_wf P hP hw hs next
  rcases insertRoot_eq P bf h F root chain next s with ⟨hover, e⟩ | ⟨hover, e⟩ <;> rw [e]
  · exact ⟨hi.wf0 hover, hi.ne⟩
  · have hfull := hi.full hover
    have hcc := wft_cap hw
    have hsp := splitNode_wf P hP hi.wf1 (by omega) (ins P h root s next).next
    refine ⟨?_, by simp [TreeSt.rootEnts, nEnts]⟩
    show WFT D (h+1) _ 0
    exact ⟨rfl, hbf, by simp, by simp; omega, List.forall_mem_cons.mpr ⟨hsp.1, List.forall_mem_cons.mpr ⟨hsp.2, nofun⟩⟩⟩

theorem insertUnit_wf_ne (hP : P.Valid) {D : Nat → Row} {bf : Nat} (hbf : 2 ≤ bf) {F : Nat} {st st' : TreeSt}
    {s : Clu} (hw : st.WF D) (hs : ExactN D s) (hst : insertUnit P bf F st s = some st') :
    st'.WF D ∧ 1 ≤ st'.rootEnts := by
  rcases insertUnit_eq P hst with ⟨rfl, rfl⟩ | ⟨h, F', root, chain, next, rfl, rfl⟩
  · exact insertRoot_wf P hP hbf (h := 0) ⟨rfl, hbf, by simp, by simp⟩ hs F [0] 1
  · exact insertRoot_wf P hP hbf hw hs F' chain next

theorem insertUnit_root_nonempty (hP : P.Valid) (D : Nat → Row) (bf : Nat) (hbf : 2 ≤ bf) (F : Nat)
    (st st' : TreeSt) (s : Clu) (hw : st.WF D) (hs : Exact D s) (hn : 1 ≤ s.n)
    (hst : insertUnit P bf F st s = some st') : 1 ≤ st'.rootEnts :=
  (insertUnit_wf_ne P hP hbf hw ⟨hs, hn⟩ hst).2

theorem insertUnit_isSome (bf F : Nat) (st : TreeSt) (s : Clu) (hlo : st.isLeavesOnly = false) :
    ∃ st', insertUnit P bf F st s = some st' :=
  let ⟨st', h, _⟩ := insertUnit_some P bf F hlo s
  ⟨st', h⟩

/-- `ins_wf` with the slack as a number: 1 exactly when `over` is reported -/
theorem ins_wf_slack (hP : P.Valid) (D : Nat → Row) (h : Nat) (t : Tree h) (s : Clu) (next : Nat)
    (hw : WFT D h t 0) (hs : Exact D s) (hn : 1 ≤ s.n) :
    WFT D h (ins P h t s next).node (if (ins P h t s next).over then 1 else 0) ∧
    ((ins P h t s next).over = true → nEnts h (ins P h t s next).node = capOf h t + 1) ∧
    (nEnts h t < capOf h t → (ins P h t s next).over = false) := by
  have hi := ins_wf P hP hw ⟨hs, hn⟩ next
  refine ⟨?_, hi.full, hi.room⟩
  cases hov : (ins P h t s next).over
  · simpa using hi.wf0 hov
  · simpa using hi.wf1

/-- `p` holds at every node of the subtree -/
def AllNodes (p : (h : Nat) → Tree h → Prop) : (h : Nat) → Tree h → Prop
  | 0, (l : LeafN) => p 0 l
  | h+1, (t : InnerN (Tree h)) => p (h+1) t ∧ ∀ e ∈ t.ents, AllNodes p h e.2

theorem allNodes_of_wft {D : Nat → Row} {q : (h : Nat) → Tree h → Prop}
    (hq : ∀ {h' t' k}, WFT D h' t' k → q h' t') {h : Nat} {t : Tree h} {k : Nat} (hw : WFT D h t k) :
    AllNodes q h t :=
  match h, t, hw with
  | 0, (_ : LeafN), hw => hq hw
  | _+1, (_ : InnerN _), hw => ⟨hq hw, fun _ he => allNodes_of_wft hq (wft_entWF hw he).1⟩

/-- every node below the root of a well-formed tree is non-empty, so only the root needs the assumption -/
theorem allNodes_of_wft_ne {D : Nat → Row} {q : (h : Nat) → Tree h → Prop}
    (hq : ∀ {h' t'}, WFT D h' t' 0 → 1 ≤ nEnts h' t' → q h' t') {h : Nat} {t : Tree h}
    (hw : WFT D h t 0) (hne : 1 ≤ nEnts h t) : AllNodes q h t :=
  match h, t, hw, hne with
  | 0, (_ : LeafN), hw, hne => hq hw hne
  | _+1, (_ : InnerN _), hw, hne =>
    ⟨hq hw hne, fun _ he => allNodes_of_wft_ne hq (wft_entWF hw he).1 (wft_entWF hw he).2.1⟩

section Parts
variable {D : Nat → Row} {h : Nat} {t : Tree h} {k : Nat}

/-- C08 (a); the root leaf is empty only before the first insertion (`insertUnit_root_nonempty`) -/
theorem wft_all_bounds (hw : WFT D h t 0) (hne : 1 ≤ nEnts h t) :
    AllNodes (fun h' t' => 1 ≤ nEnts h' t' ∧ nEnts h' t' ≤ capOf h' t' ∧ 2 ≤ capOf h' t') h t :=
  allNodes_of_wft_ne (fun hw' hne' => ⟨hne', by simpa using wft_len hw', wft_cap hw'⟩) hw hne

/-- C08 (d) -/
theorem wft_all_cache (hw : WFT D h t k) :
    AllNodes (fun h' t' => cacheOf h' t' = (entClus h' t').map (·.cent)) h t :=
  allNodes_of_wft wft_cache hw

/-- C08 (f) -/
theorem wft_all_exact (hw : WFT D h t k) :
    AllNodes (fun h' t' => ∀ c ∈ entClus h' t', Exact D c ∧ 1 ≤ c.n ∧ c.w = minSafe c.n) h t :=
  allNodes_of_wft (fun hw' c hc => let ⟨hx, hn⟩ := wft_exactN hw' c hc; ⟨hx, hn, hx.w_eq⟩) hw

end Parts

/-- an inner root needs no non-emptiness assumption -/
theorem wft_all_bounds_inner (D : Nat → Row) (h : Nat) (t : Tree (h+1)) (hw : WFT D (h+1) t 0) :
    AllNodes (fun h' t' => 1 ≤ nEnts h' t' ∧ nEnts h' t' ≤ capOf h' t' ∧ 2 ≤ capOf h' t') (h+1) t :=
  wft_all_bounds hw hw.2.2.1

/-- count, per-bit sums and labels of every entry of an inner node equal the totals of the node beneath it; the
sums are stated twice, over the members (`colSum`) and over the entries of the node beneath (`addLs`) -/
def TrackOK (D : Nat → Row) : (h : Nat) → Tree h → Prop
  | 0, _ => True
  | h+1, (t : InnerN (Tree h)) => ∀ e ∈ t.ents,
      e.1.n = ((entClus h e.2).map (·.n)).sum ∧
      e.1.ls = colSum (e.1.ids.map D) ∧
      (e.1.ids : Multiset Nat) = ((entClus h e.2).map (fun c => (c.ids : Multiset Nat))).sum ∧
      e.1.ls = (entClus h e.2).foldl (fun acc c => addLs acc c.ls) []

theorem wft_trackOK {D : Nat → Row} {h : Nat} {t : Tree h} {k : Nat} (hw : WFT D h t k) : TrackOK D h t :=
  match h, t, hw with
  | 0, _, _ => trivial
  | h+1, (t : InnerN (Tree h)), hw => by
    intro e he
    obtain ⟨cw, _, cex, _, cids⟩ := wft_entWF hw he
    have hent : ∀ c ∈ entClus h e.2, Exact D c := fun c hc => (wft_exactN cw c hc).1
    have hids : (e.1.ids : Multiset Nat) = ((trackOf (entClus h e.2)).ids : Multiset Nat) := by
      rw [cids, wft_ids cw, trackOf_ids_coe]
    -- the entry and the entry rebuilt from the node beneath it summarise the same members
    have htr := exact_trackOf hent
    obtain ⟨hn, hls⟩ := cex.congr htr (Multiset.coe_eq_coe.mp hids)
    refine ⟨hn.trans (trackOf_n _), cex.ls_eq, hids.trans (trackOf_ids_coe _), ?_⟩
    rw [hls, htr.ls_eq, trackOf_ids, foldl_addLs_exact hent, addLs_nil_left]

/-- C08 (c) -/
theorem wft_all_track {D : Nat → Row} {h : Nat} {t : Tree h} {k : Nat} (hw : WFT D h t k) :
    AllNodes (TrackOK D) h t :=
  allNodes_of_wft wft_trackOK hw

def TreeSt.AllNodes (p : (h : Nat) → Tree h → Prop) : TreeSt → Prop
  | .full h _ root _ _ => BB.AllNodes p h root
  | _ => True

/-- C08 (a), (d), (f), (c) for the tree after an insertion -/
theorem insertUnit_C08 (hP : P.Valid) (D : Nat → Row) (bf : Nat) (hbf : 2 ≤ bf) (F : Nat)
    (st st' : TreeSt) (s : Clu) (hw : st.WF D) (hs : Exact D s) (hn : 1 ≤ s.n)
    (hst : insertUnit P bf F st s = some st') :
    st'.AllNodes (fun h' t' => 1 ≤ nEnts h' t' ∧ nEnts h' t' ≤ capOf h' t' ∧ 2 ≤ capOf h' t') ∧
    st'.AllNodes (fun h' t' => cacheOf h' t' = (entClus h' t').map (·.cent)) ∧
    st'.AllNodes (fun h' t' => ∀ c ∈ entClus h' t', Exact D c ∧ 1 ≤ c.n ∧ c.w = minSafe c.n) ∧
    st'.AllNodes (TrackOK D) := by
  obtain ⟨h1, h2⟩ := insertUnit_wf_ne P hP hbf hw ⟨hs, hn⟩ hst
  cases st' with
  | uninit => exact ⟨trivial, trivial, trivial, trivial⟩
  | leavesOnly F' ls => exact ⟨trivial, trivial, trivial, trivial⟩
  | full h F' root chain next => exact ⟨wft_all_bounds h1 h2, wft_all_cache h1, wft_all_exact h1, wft_all_track h1⟩

end BB
