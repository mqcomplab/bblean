/-
The estimator reads its results through a chain of leaf ids kept beside the
tree: a chain that lists the leaf ids of the tree, once each, reads exactly the tree's leaves,
which is the state invariant `TreeSt.OK` (with `Shape`).  `ins_spec` is the one induction over
`ins` for all that holds of a tree of valid shape (shape kept, leaf clusters changed by accepted
merges only, leaf ids accounted for by the chain event: `EvAcc`); `insertUnit_spec` lifts it to
an insertion at the root, growing the tree by one level when the root is split.
-/
import BBProofs.TreeBasic

namespace BB

/-! ### leaf ids and the chain -/

/-- ids of the leaf nodes of a tree -/
def leafIdsM : (h : Nat) → Tree h → Multiset Nat
  | 0, (l : LeafN) => {l.id}
  | h+1, (t : InnerN (Tree h)) => (t.ents.map (fun (e : Clu × Tree h) => leafIdsM h e.2)).sum

/-- the leaf id a chain event adds: that of the new leaf -/
def evNew : Option (Nat × Nat) → Multiset Nat
  | none => 0
  | some e => {e.1}

theorem leavesOf_ids : ∀ (h : Nat) (t : Tree h),
    (((leavesOf h t).map (·.id) : List Nat) : Multiset Nat) = leafIdsM h t
  | 0, (l : LeafN) => by simp [leavesOf, leafIdsM]
  | h+1, (t : InnerN (Tree h)) => by
    simp only [leavesOf, leafIdsM]
    induction t.ents with
    | nil => simp
    | cons e es ih =>
      simp only [List.flatMap_cons, List.map_append, List.map_cons, List.sum_cons, ← Multiset.coe_add]
      rw [leavesOf_ids h e.2, ih]

theorem leavesOf_subs : ∀ (h : Nat) (t : Tree h),
    (((leavesOf h t).flatMap (·.subs) : List Clu) : Multiset Clu) = lclus h t
  | 0, (l : LeafN) => by simp [leavesOf, lclus]
  | h+1, (t : InnerN (Tree h)) => by
    simp only [leavesOf, lclus]
    induction t.ents with
    | nil => simp
    | cons e es ih =>
      simp only [List.flatMap_cons, List.flatMap_append, List.map_cons, List.sum_cons, ← Multiset.coe_add]
      rw [leavesOf_subs h e.2, ih]

theorem findLeaf_self {ls : List LeafN} (hn : (ls.map (·.id)).Nodup) {l : LeafN} (hl : l ∈ ls) :
    findLeaf ls l.id = some l := by
  induction ls with
  | nil => simp at hl
  | cons a ls ih =>
    simp only [List.map_cons, List.nodup_cons, List.mem_map, not_exists, not_and] at hn
    simp only [findLeaf, List.find?_cons]
    rcases List.mem_cons.mp hl with h | h
    · subst h; simp
    · have hne : a.id ≠ l.id := fun he => hn.1 l h he.symm
      have : (a.id == l.id) = false := by simpa using hne
      simp only [this]
      exact ih hn.2 h

theorem chain_reads {ls : List LeafN} {chain : List Nat}
    (hp : (chain : Multiset Nat) = ((ls.map (·.id) : List Nat) : Multiset Nat)) (hn : chain.Nodup) :
    (chain.filterMap (findLeaf ls)).Perm ls := by
  have hperm : chain.Perm (ls.map (·.id)) := Multiset.coe_eq_coe.mp hp
  have hn' : (ls.map (·.id)).Nodup := hperm.nodup_iff.mp hn
  have h1 : (chain.filterMap (findLeaf ls)).Perm ((ls.map (·.id)).filterMap (findLeaf ls)) :=
    hperm.filterMap _
  have h2 : (ls.map (·.id)).filterMap (findLeaf ls) = ls := by
    rw [List.filterMap_map]
    have : ∀ l ∈ ls, (findLeaf ls ∘ fun x => x.id) l = some l := fun l hl => findLeaf_self hn' hl
    rw [List.filterMap_congr this]
    simp
  rw [h2] at h1
  exact h1

theorem chainInsert_coe (chain : List Nat) (ev : Option (Nat × Nat)) :
    ((chainInsert chain ev : List Nat) : Multiset Nat) = (chain : Multiset Nat) + evNew ev := by
  cases ev with
  | none => simp [chainInsert, evNew]
  | some e =>
    obtain ⟨new, before⟩ := e
    induction chain with
    | nil => simp [chainInsert, evNew]
    | cons x xs ih =>
      simp only [chainInsert]
      split
      · simp only [evNew]
        rw [← Multiset.cons_coe, ← Multiset.singleton_add, add_comm]
      · rw [← Multiset.cons_coe, ih, ← Multiset.cons_coe, Multiset.cons_add]

/-- how a chain event accounts for the leaf ids: `B` is `A` and the event's id, which is the
counter `next`; the counter moves past it -/
structure EvAcc (A B : Multiset Nat) (next next' : Nat) (ev : Option (Nat × Nat)) : Prop where
  ids : B = A + evNew ev
  nxt : next' = next + Multiset.card (evNew ev)
  fresh : ∀ e, ev = some e → e.1 = next

theorem EvAcc.refl (A : Multiset Nat) (next : Nat) : EvAcc A A next next none :=
  ⟨(add_zero A).symm, rfl, fun _ h => nomatch h⟩

theorem EvAcc.frame {A B : Multiset Nat} {n n' : Nat} {ev : Option (Nat × Nat)} (R : Multiset Nat)
    (h : EvAcc A B n n' ev) : EvAcc (R + A) (R + B) n n' ev :=
  ⟨by rw [h.ids, add_assoc], h.nxt, h.fresh⟩

theorem evNew_or (a b : Option (Nat × Nat)) (h : b = none ∨ a = none) :
    evNew (a.or b) = evNew b + evNew a := by
  cases a <;> cases b <;> simp_all [evNew]

theorem EvAcc.andThen {A B C : Multiset Nat} {n n1 n2 : Nat} {a b : Option (Nat × Nat)}
    (h1 : EvAcc A B n n1 a) (h2 : EvAcc B C n1 n2 b) (hone : a = none ∨ b = none) :
    EvAcc A C n n2 (b.or a) := by
  refine ⟨by rw [h2.ids, h1.ids, evNew_or _ _ hone, add_assoc],
    by rw [h2.nxt, h1.nxt, evNew_or _ _ hone, Multiset.card_add, add_assoc], fun e he => ?_⟩
  cases hb : b with
  | none => rw [hb] at he; exact h1.fresh e he
  | some e' =>
    rw [hb] at he; cases he
    rw [h2.fresh e hb, h1.nxt, hone.resolve_right (by rw [hb]; exact Option.some_ne_none _)]; rfl

theorem chainInsert_spec {A B : Multiset Nat} {next next' : Nat} {chain : List Nat} {ev : Option (Nat × Nat)}
    (hc : (chain : Multiset Nat) = A ∧ chain.Nodup ∧ ∀ i ∈ chain, i < next) (h : EvAcc A B next next' ev) :
    ((chainInsert chain ev : List Nat) : Multiset Nat) = B ∧ (chainInsert chain ev).Nodup ∧
      ∀ i ∈ chainInsert chain ev, i < next' := by
  obtain ⟨hA, hn, hlt⟩ := hc
  have hcoe := chainInsert_coe chain ev
  refine ⟨by rw [hcoe, hA, h.ids], ?_⟩
  rw [h.nxt]
  cases ev with
  | none => simpa [chainInsert, evNew] using And.intro hn hlt
  | some e =>
    have he := h.fresh e rfl
    have hperm : (chainInsert chain (some e)).Perm (e.1 :: chain) := by
      apply Multiset.coe_eq_coe.mp
      rw [hcoe, evNew, ← Multiset.cons_coe, ← Multiset.singleton_add, add_comm]
    constructor
    · rw [hperm.nodup_iff, List.nodup_cons]
      exact ⟨fun hmem => by have := hlt _ hmem; omega, hn⟩
    · intro i hi
      simp only [evNew, Multiset.card_singleton]
      rcases List.mem_cons.mp (hperm.mem_iff.mp hi) with h | h
      · omega
      · have := hlt i h; omega

/-! ### the state invariant -/

/-- the leaf sub-clusters of a state, as a multiset -/
def TreeSt.lclusM : TreeSt → Multiset Clu
  | .uninit => 0
  | .full h _ root _ _ => lclus h root
  | .leavesOnly _ ls => ((ls.flatMap (·.subs) : List Clu) : Multiset Clu)

/-- the tree has valid shape and the chain lists its leaf ids, each once and below the counter -/
def TreeSt.OK : TreeSt → Prop
  | .uninit => True
  | .full h _ root chain next =>
    Shape h root ∧ (chain : Multiset Nat) = leafIdsM h root ∧ chain.Nodup ∧ ∀ i ∈ chain, i < next
  | .leavesOnly _ _ => True

def TreeSt.isLeavesOnly : TreeSt → Bool
  | .leavesOnly _ _ => true
  | _ => false

/-- the chain reads the leaves of the tree -/
theorem chain_reads_leaves {h : Nat} {root : Tree h} {chain : List Nat} (hc : (chain : Multiset Nat) = leafIdsM h root)
    (hn : chain.Nodup) : (chain.filterMap (findLeaf (leavesOf h root))).Perm (leavesOf h root) :=
  chain_reads (by rw [hc, leavesOf_ids]) hn

theorem TreeSt.leafClus_coe {st : TreeSt} (h : st.OK) : (st.leafClus : Multiset Clu) = st.lclusM := by
  cases st with
  | uninit => simp [TreeSt.leafClus, TreeSt.leaves, TreeSt.lclusM]
  | leavesOnly F ls => simp [TreeSt.leafClus, TreeSt.leaves, TreeSt.lclusM]
  | full h F root chain next =>
    obtain ⟨_, hc, hn, _⟩ := h
    simp only [TreeSt.leafClus, TreeSt.leaves, TreeSt.lclusM]
    have hp := chain_reads_leaves hc hn
    rw [← leavesOf_subs]
    exact Multiset.coe_eq_coe.mpr (List.Perm.flatMap_right _ hp)

variable (P : Policy)

theorem insertLeaf_id (l : LeafN) (s : Clu) (next : Nat) :
    (insertLeaf P l s next).node.id = l.id ∧ (insertLeaf P l s next).ev = none ∧
      (insertLeaf P l s next).next = next := by
  rcases insertLeaf_eq P l s next with ⟨_, e⟩ | ⟨_, _, e⟩ | ⟨_, _, _, e⟩ | ⟨_, _, _, e⟩ <;> rw [e] <;> exact ⟨rfl, rfl, rfl⟩

theorem splitNode_ids : ∀ (h : Nat) (t : Tree h) (next : Nat),
    EvAcc (leafIdsM h t) (leafIdsM h (splitNode P h t next).t1 + leafIdsM h (splitNode P h t next).t2)
      next (splitNode P h t next).next (splitNode P h t next).ev
  | 0, (l : LeafN), next => ⟨add_comm _ _, rfl, fun e he => by cases he; rfl⟩
  | h+1, (t : InnerN (Tree h)), next =>
    ⟨(splitBy_sum (fun (e : Clu × Tree h) => leafIdsM h e.2) _ _).trans (add_zero _).symm, rfl,
      fun e he => nomatch he⟩

theorem leafIdsM_eraseIdx {h : Nat} {t : InnerN (Tree h)} {i : Nat} {c : Clu} {child : Tree h}
    (hc : t.ents[i]? = some (c, child)) :
    leafIdsM (h+1) t = ((t.ents.eraseIdx i).map (fun (e : Clu × Tree h) => leafIdsM h e.2)).sum + leafIdsM h child := by
  simp only [leafIdsM]
  exact sum_eraseIdx (fun (e : Clu × Tree h) => leafIdsM h e.2) hc

/-- what an insertion into a subtree of valid shape returns -/
structure InsSpec {h : Nat} (t : Tree h) (s : Clu) (next : Nat) (r : InsRes (Tree h)) : Prop where
  shape : Shape h r.node
  splittable : r.over = true → 2 ≤ nEnts h r.node
  mc : MC P.acc (lclus h t + {s}) (lclus h r.node)
  ev : EvAcc (leafIdsM h t) (leafIdsM h r.node) next r.next r.ev

theorem ins_spec (hP : P.Valid) {h : Nat} {t : Tree h} (hs : Shape h t) (s : Clu) (next : Nat) :
    InsSpec P t s next (ins P h t s next) :=
  match h, t, hs with
  | 0, (l : LeafN), hs => by
    obtain ⟨h1, h2, h3⟩ := insertLeaf_id P l s next
    have hsh := insertLeaf_shape P hs s next
    simp only [ins]
    refine ⟨hsh.1, hsh.2, lclus_insertLeaf P hP hs.1 s next, ?_⟩
    rw [h2, h3]
    simp only [leafIdsM, h1]
    exact EvAcc.refl _ _
  | h+1, (t : InnerN (Tree h)), hs => by
    obtain ⟨c, child, hsome, hmem⟩ := Shape.route_some P hP hs s.cent
    obtain ⟨hl, hcap, hne, hall⟩ := hs
    have ih := ins_spec hP (hall _ hmem) s next
    -- the node is its other entries and the child, for both measures
    have hlc := lclus_eraseIdx hsome
    have hid := leafIdsM_eraseIdx hsome
    simp only [ins, hsome]
    split
    · rename_i hover
      have hsp := splitNode_shape P hP ih.shape (ih.splittable hover) (ins P h child s next).next
      have hspi := splitNode_ids P h (ins P h child s next).node (ins P h child s next).next
      -- at most one of the two chain events exists
      have hone : (ins P h child s next).ev = none ∨
          (splitNode P h (ins P h child s next).node (ins P h child s next).next).ev = none := by
        cases h with
        | zero => exact Or.inl (insertLeaf_id P _ s next).2.1
        | succ k => exact Or.inr rfl
      refine ⟨⟨by simp [hl], hcap, by simp, forall_set_append _ hall hsp.1 (by simpa using hsp.2)⟩,
        fun _ => by simp only [nEnts, List.length_append, List.length_set, List.length_singleton]
                    have := List.length_pos_iff.mpr hne; omega, ?_, ?_⟩
      · rw [hlc]
        simp only [lclus, List.map_append, List.sum_append, List.map_cons, List.map_nil, List.sum_cons,
          List.sum_nil, add_zero]
        rw [sum_set_eraseIdx (fun (e : Clu × Tree h) => lclus h e.2) hsome, add_assoc, add_assoc]
        simp only
        rw [lclus_splitNode]
        exact ih.mc.frame_left _
      · rw [hid]
        simp only [leafIdsM, List.map_append, List.sum_append, List.map_cons, List.map_nil, List.sum_cons,
          List.sum_nil, add_zero]
        rw [sum_set_eraseIdx (fun (e : Clu × Tree h) => leafIdsM h e.2) hsome, add_assoc]
        exact (ih.ev.andThen hspi hone).frame _
    · refine ⟨⟨by simp [hl], hcap, by simpa using hne,
          fun e he => (List.mem_or_eq_of_mem_set he).elim (hall e) fun h => h ▸ ih.shape⟩, by simp, ?_, ?_⟩
      · rw [hlc]
        simp only [lclus]
        rw [sum_set_eraseIdx (fun (e : Clu × Tree h) => lclus h e.2) hsome, add_assoc]
        exact ih.mc.frame_left _
      · rw [hid]
        simp only [leafIdsM]
        rw [sum_set_eraseIdx (fun (e : Clu × Tree h) => leafIdsM h e.2) hsome]
        exact ih.ev.frame _

theorem ins_labels (hP : P.Valid) {h : Nat} {t : Tree h} (hs : Shape h t) (s : Clu) (next : Nat) :
    idsOf (lclus h (ins P h t s next).node) = idsOf (lclus h t) + (s.ids : Multiset Nat) := by
  rw [(ins_spec P hP hs s next).mc.ids, idsOf_add, idsOf_singleton]

theorem insertRoot_eq (bf h F : Nat) (root : Tree h) (chain : List Nat) (next : Nat) (s : Clu) :
    let r := ins P h root s next
    let sp := splitNode P h r.node r.next
    (r.over = false ∧ insertRoot P bf h F root chain next s = .full h F r.node (chainInsert chain r.ev) r.next) ∨
    (r.over = true ∧ insertRoot P bf h F root chain next s =
      .full (h + 1) F
        ({ cap := bf, ents := [(sp.c1, sp.t1), (sp.c2, sp.t2)], cache := [sp.c1.cent, sp.c2.cent] } : InnerN (Tree h))
        (chainInsert (chainInsert chain r.ev) sp.ev) sp.next) := by
  unfold insertRoot
  cases ho : (ins P h root s next).over <;> simp [ho]

theorem insertRoot_spec (hP : P.Valid) {bf : Nat} (hbf : 1 ≤ bf) {h F : Nat} {root : Tree h}
    {chain : List Nat} {next : Nat} (hok : (TreeSt.full h F root chain next).OK) (s : Clu) :
    (insertRoot P bf h F root chain next s).OK ∧
    MC P.acc (lclus h root + {s}) (insertRoot P bf h F root chain next s).lclusM := by
  obtain ⟨hsh, hchain⟩ := hok
  have hi := ins_spec P hP hsh s next
  have hch := chainInsert_spec hchain hi.ev
  rcases insertRoot_eq P bf h F root chain next s with ⟨_, e⟩ | ⟨hover, e⟩ <;> rw [e]
  · exact ⟨⟨hi.shape, hch⟩, hi.mc⟩
  · have hsp := splitNode_shape P hP hi.shape (hi.splittable hover) (ins P h root s next).next
    have hch2 := chainInsert_spec hch (splitNode_ids P h (ins P h root s next).node (ins P h root s next).next)
    refine ⟨⟨⟨rfl, hbf, by simp, by simpa using hsp⟩, ?_⟩, ?_⟩
    · simpa only [leafIdsM, List.map_cons, List.map_nil, List.sum_cons, List.sum_nil, add_zero] using hch2
    · simp only [TreeSt.lclusM, lclus, List.map_cons, List.map_nil, List.sum_cons, List.sum_nil, add_zero]
      rw [lclus_splitNode]
      exact hi.mc

theorem insertRoot_full (bf h F : Nat) (root : Tree h) (chain : List Nat) (next : Nat) (s : Clu) :
    (insertRoot P bf h F root chain next s).isLeavesOnly = false ∧
      (insertRoot P bf h F root chain next s).F? = some F := by
  rcases insertRoot_eq P bf h F root chain next s with ⟨_, e⟩ | ⟨_, e⟩ <;> rw [e] <;> exact ⟨rfl, rfl⟩

theorem insertUnit_some (bf F : Nat) {st : TreeSt} (hlo : st.isLeavesOnly = false) (u : Clu) :
    ∃ st', insertUnit P bf F st u = some st' ∧ st'.isLeavesOnly = false ∧
      st'.F? = some ((st.F?).getD F) := by
  cases st with
  | leavesOnly F' ls => cases hlo
  | uninit => exact ⟨_, rfl, insertRoot_full P ..⟩
  | full h F' root chain next => exact ⟨_, rfl, insertRoot_full P ..⟩

theorem insertUnit_eq {bf F : Nat} {st st' : TreeSt} {u : Clu} (hst : insertUnit P bf F st u = some st') :
    (st = .uninit ∧ st' = insertRoot P bf 0 F ({ id := 0, cap := bf, subs := [], cache := [] } : LeafN) [0] 1 u) ∨
    ∃ h F' root chain next, st = .full h F' root chain next ∧ st' = insertRoot P bf h F' root chain next u := by
  cases st with
  | leavesOnly F' ls => cases hst
  | uninit => exact .inl ⟨rfl, (Option.some.inj hst).symm⟩
  | full h F' root chain next => exact .inr ⟨h, F', root, chain, next, rfl, (Option.some.inj hst).symm⟩

theorem insertUnit_spec (hP : P.Valid) {bf : Nat} (hbf : 1 ≤ bf) {F : Nat} {st st' : TreeSt} {s : Clu}
    (hok : st.OK) (h : insertUnit P bf F st s = some st') :
    st'.OK ∧ MC P.acc (st.lclusM + {s}) st'.lclusM := by
  rcases insertUnit_eq P h with ⟨rfl, rfl⟩ | ⟨h', F', root, chain, next, rfl, rfl⟩
  · have := insertRoot_spec P hP hbf (h := 0) (F := F) (root := ({ id := 0, cap := bf, subs := [], cache := [] } : LeafN))
      (chain := [0]) (next := 1) ⟨⟨rfl, hbf⟩, rfl, List.nodup_singleton 0, by simp⟩ s
    exact ⟨this.1, by simpa [lclus, TreeSt.lclusM] using this.2⟩
  · exact insertRoot_spec P hP hbf hok s

end BB
