/-
What the operations compute.  Every loop of the estimator (`fit`, `_fit_buffers`, the refits of
`refine_inplace` and `recluster_inplace`) is `insertAll`, a fold of `insertUnit`, and at the
level of the estimator `Est.grow`; `fit`, `refine` and a round of `recluster` are `grow`s.  The
equations for the loops assume only that the internal nodes were not released, that for `fit` the feature
count it settles on; `_fit_buffers`, `refine` and the rounds of `recluster` insert clusters, so theirs assume
the feature count of these (for what is extracted from the tree: the state invariant).
What an invariant has to show is then a fact about `insertUnit`, lifted through the fold by `insertAll_induct`.
-/
import BBProofs.StateInv
import BBProofs.OpsAux
import Mathlib.Data.List.TakeWhile

namespace BB
variable (P : Policy) (pol : Cfg → Policy)

/-! ### the fold of `insertUnit` -/

/-- the units inserted one after the other.  `insertUnit` refuses only once the inner nodes are released
(`insertUnit_some`); the loops of the model then stop and return the state as it is, which is what `getD st`
does (`fitUnits_fst`, `fitRows_fst`) -/
def insertAll (bf F : Nat) (st : TreeSt) (us : List Clu) : TreeSt :=
  us.foldl (fun st u => (insertUnit P bf F st u).getD st) st

@[simp] theorem insertAll_nil (bf F : Nat) (st : TreeSt) : insertAll P bf F st [] = st := rfl

theorem insertAll_cons {bf F : Nat} {st st' : TreeSt} {u : Clu} (h : insertUnit P bf F st u = some st') (us : List Clu) :
    insertAll P bf F st (u :: us) = insertAll P bf F st' us := by
  simp [insertAll, h]

theorem insertAll_append (bf F : Nat) (st : TreeSt) (us vs : List Clu) :
    insertAll P bf F st (us ++ vs) = insertAll P bf F (insertAll P bf F st us) vs :=
  List.foldl_append

theorem insertAll_isLeavesOnly (bf F : Nat) {st : TreeSt} (hlo : st.isLeavesOnly = false) (us : List Clu) :
    (insertAll P bf F st us).isLeavesOnly = false := by
  induction us using List.reverseRecOn with
  | nil => exact hlo
  | append_singleton vs u ih =>
    obtain ⟨st2, h2, hlo2, _⟩ := insertUnit_some P bf F ih u
    rwa [insertAll_append, insertAll_cons P h2 []]

/-- lifting a fact about single insertions through the fold: `R us st'` speaks of the units
inserted so far and the state reached, hence the induction from the end of the list -/
theorem insertAll_induct (bf F : Nat) {R : List Clu → TreeSt → Prop} {st : TreeSt}
    (hlo : st.isLeavesOnly = false) (h0 : R [] st)
    (hstep : ∀ vs st1 u st2, st1.isLeavesOnly = false → R vs st1 →
      insertUnit P bf F st1 u = some st2 → R (vs ++ [u]) st2) (us : List Clu) :
    R us (insertAll P bf F st us) := by
  induction us using List.reverseRecOn with
  | nil => exact h0
  | append_singleton vs u ih =>
    have hlo1 := insertAll_isLeavesOnly P bf F hlo vs
    obtain ⟨st2, h2, _⟩ := insertUnit_some P bf F hlo1 u
    rw [insertAll_append, insertAll_cons P h2 []]
    exact hstep vs _ u st2 hlo1 ih h2

theorem insertAll_F (bf F : Nat) {st : TreeSt} (hlo : st.isLeavesOnly = false) (us : List Clu) :
    (insertAll P bf F st us).F? = if us = [] then st.F? else some ((st.F?).getD F) := by
  refine insertAll_induct P bf F (R := fun us st' => st'.F? = if us = [] then st.F? else _) hlo rfl ?_ us
  intro vs st1 u st2 hlo1 h1 h2
  obtain ⟨st2', h2', _, hF⟩ := insertUnit_some P bf F hlo1 u
  rw [h2] at h2'; cases h2'
  rw [hF, h1]
  split <;> simp

theorem insertAll_of_leavesOnly (bf F : Nat) {st : TreeSt} (hlo : st.isLeavesOnly = true) (us : List Clu) :
    insertAll P bf F st us = st := by
  cases st with
  | leavesOnly F' ls => induction us with
    | nil => rfl
    | cons u us ih => exact ih
  | _ => cases hlo

theorem insertAll_keeps (bf F : Nat) {I : TreeSt → Prop} {U : Clu → Prop}
    (hI : ∀ st st' u, I st → U u → insertUnit P bf F st u = some st' → I st') (st : TreeSt)
    (us : List Clu) (h : I st) (hu : ∀ u ∈ us, U u) : I (insertAll P bf F st us) := by
  cases hlo : st.isLeavesOnly with
  | true => rwa [insertAll_of_leavesOnly P bf F hlo]
  | false =>
    exact insertAll_induct P bf F (R := fun vs st' => (∀ u ∈ vs, U u) → I st') hlo (fun _ => h)
      (fun vs st1 u st2 _ ih h2 hq => hI st1 st2 u (ih fun x hx => hq x (List.mem_append_left _ hx))
        (hq u (by simp)) h2) us hu

theorem insertAll_spec (hP : P.Valid) {bf : Nat} (hbf : 1 ≤ bf) (F : Nat) {st : TreeSt} (hok : st.OK)
    (hlo : st.isLeavesOnly = false) (us : List Clu) :
    (insertAll P bf F st us).OK ∧ (insertAll P bf F st us).isLeavesOnly = false ∧
      MC P.acc (st.lclusM + (us : Multiset Clu)) (insertAll P bf F st us).lclusM := by
  have key := insertAll_induct P bf F
    (R := fun us st' => st'.OK ∧ MC P.acc (st.lclusM + (us : Multiset Clu)) st'.lclusM)
    hlo ⟨hok, by simpa using MC.refl _⟩ ?_ us
  · exact ⟨key.1, insertAll_isLeavesOnly P bf F hlo us, key.2⟩
  · intro vs st1 u st2 hlo1 ⟨hok1, hmc⟩ h2
    obtain ⟨hok2, hprov⟩ := insertUnit_spec P hP hbf hok1 h2
    refine ⟨hok2, ?_⟩
    rw [← Multiset.coe_add, ← add_assoc]
    exact (hmc.frame _).trans hprov

/-! ### the loops of the model -/

/-- the rows a `fit` call accepts: everything before the first row of the wrong length -/
def goodPrefix (F : Nat) (rows : List (Nat × Row)) : List (Nat × Row) := rows.takeWhile (fun p => rowOk F p.2)

theorem goodPrefix_all (F : Nat) (l : List (Nat × Row)) (h : ∀ p ∈ l, p.2.length = F) : goodPrefix F l = l := by
  unfold goodPrefix
  rw [List.takeWhile_eq_self_iff]
  intro p hp
  simp [rowOk, h p hp]

theorem fitUnits_eq (bf F : Nat) : ∀ (us : List Clu) {st : TreeSt} (k : Nat), st.isLeavesOnly = false →
    fitUnits P bf F st k us = (insertAll P bf F st us, k + (us.map (·.ids.length)).sum, none)
  | [], st, k, _ => rfl
  | u :: us, st, k, hlo => by
    obtain ⟨st', h, hlo', _⟩ := insertUnit_some P bf F hlo u
    simp only [fitUnits, h, insertAll_cons P h us, fitUnits_eq bf F us _ hlo',
      List.map_cons, List.sum_cons, Nat.add_assoc]

theorem fitRows_eq (bf F : Nat) : ∀ (rows : List (Nat × Row)) {st : TreeSt} (k : Nat),
    st.isLeavesOnly = false →
    fitRows P bf F st k rows =
      (insertAll P bf F st ((goodPrefix F rows).map fun p => Clu.ofRow p.2 p.1),
        k + (goodPrefix F rows).length,
        if (goodPrefix F rows).length = rows.length then none else some Err.value)
  | [], st, k, _ => rfl
  | (lab, r) :: rows, st, k, hlo => by
    by_cases hr : rowOk F r = true
    · obtain ⟨st', h, hlo', _⟩ := insertUnit_some P bf F hlo (Clu.ofRow r lab)
      have hg : goodPrefix F ((lab, r) :: rows) = (lab, r) :: goodPrefix F rows := by
        simp [goodPrefix, hr]
      rw [fitRows, hg, List.map_cons, insertAll_cons P h]
      simp only [hr, Bool.not_true, Bool.false_eq_true, if_false, h, fitRows_eq bf F rows _ hlo',
        List.length_cons, Nat.add_right_cancel_iff, Nat.add_assoc, Nat.add_comm 1]
    · have hg : goodPrefix F ((lab, r) :: rows) = [] := by
        simp [goodPrefix, hr]
      simp [fitRows, hr, hg]

theorem fitUnits_fst (bf F : Nat) (us : List Clu) (st : TreeSt) (k : Nat) :
    (fitUnits P bf F st k us).1 = insertAll P bf F st us := by
  cases hlo : st.isLeavesOnly with
  | false => rw [fitUnits_eq P bf F us k hlo]
  | true =>
    rw [insertAll_of_leavesOnly P bf F hlo]
    cases st with
    | leavesOnly F' ls => cases us <;> rfl
    | _ => cases hlo

theorem fitRows_fst (bf F : Nat) (rows : List (Nat × Row)) (st : TreeSt) (k : Nat) :
    (fitRows P bf F st k rows).1 = insertAll P bf F st ((goodPrefix F rows).map fun p => Clu.ofRow p.2 p.1) := by
  cases hlo : st.isLeavesOnly with
  | false => rw [fitRows_eq P bf F rows k hlo]
  | true =>
    rw [insertAll_of_leavesOnly P bf F hlo]
    cases st with
    | leavesOnly F' ls =>
      cases rows with
      | nil => rfl
      | cons p rest => simp only [fitRows, insertUnit]; split <;> rfl
    | _ => cases hlo

/-! ### the estimator level: `grow` -/

/-- `_fit_buffers` on units of the tree's feature count: insert them all and count their members -/
def Est.grow (e : Est) (F : Nat) (us : List Clu) : Est :=
  { e with st := insertAll P e.cfg.bf F e.st us,
           numFitted := e.numFitted + (us.map (·.ids.length)).sum }

@[simp] theorem grow_nil (e : Est) (F : Nat) : e.grow P F [] = e := rfl

@[simp] theorem grow_cfg (e : Est) (F : Nat) (us : List Clu) : (e.grow P F us).cfg = e.cfg := rfl

theorem grow_ofRow_numFitted (e : Est) (F : Nat) (l : List (Nat × Row)) :
    (e.grow P F (l.map fun p => Clu.ofRow p.2 p.1)).numFitted = e.numFitted + l.length := by
  simp [Est.grow, Function.comp_def, Clu.ofRow]

/-- the tree, if there is one, has `F` features (the clause `fF` of `EInv`) -/
abbrev TreeSt.HasF (st : TreeSt) (F : Nat) : Prop := ∀ F', st.F? = some F' → F' = F

/-- the feature count a call settles on, from its first row of `n = F` features, is the tree's if there is one -/
theorem TreeSt.HasF.getD {F : Nat} {st : TreeSt} (hF : st.HasF F) (n : Nat) (hn : n = F) : (st.F?).getD n = F := by
  cases h : st.F? with
  | none => exact hn
  | some F' => exact hF F' h

theorem grow_F {e : Est} {F : Nat} (hlo : e.st.isLeavesOnly = false) (hF : e.st.HasF F) (us : List Clu) :
    (e.grow P F us).st.HasF F := by
  intro F' h
  rw [Est.grow, insertAll_F P _ _ hlo] at h
  split at h
  · exact hF F' h
  · rw [hF.getD F rfl] at h; exact (Option.some.inj h).symm

theorem fitBuffers_eq {F : Nat} {e : Est} {us : List Clu} (hlo : e.st.isLeavesOnly = false)
    (hF : e.st.HasF F) (hne : us ≠ []) (hlen : ∀ u ∈ us, u.ls.length = F) :
    fitBuffers P e us = (e.grow P F us, none) := by
  obtain ⟨u0, us, rfl⟩ := List.exists_cons_of_ne_nil hne
  have hu0 : u0.ls.length = F := hlen u0 (by simp)
  have hFF := hF.getD F rfl
  unfold fitBuffers
  cases hst : e.st
  case leavesOnly F' ls => rw [hst] at hlo; cases hlo
  all_goals
    rw [hst] at hFF hlo
    simp only [hFF, hu0, bne_self_eq_false, Bool.false_eq_true, if_false, fitUnits_eq P _ _ _ _ hlo,
      Est.grow, hst]

theorem fitBuffers_cfg (e : Est) (units : List Clu) : (fitBuffers P e units).1.cfg = e.cfg := by
  unfold fitBuffers
  cases units with
  | nil => rfl
  | cons u0 us =>
    cases e.st with
    | leavesOnly F ls => rfl
    | uninit => simp only; split <;> rfl
    | full h F root chain next => simp only; split <;> rfl

theorem refitGroups_cfg : ∀ (gs : List (W × List Clu)) (e : Est), (refitGroups pol e gs).1.cfg = e.cfg
  | [], e => rfl
  | g :: gs, e => by
    simp only [refitGroups]
    have h1 := fitBuffers_cfg (pol e.cfg) e (g.2.map Clu.asUnit)
    generalize fitBuffers (pol e.cfg) e (g.2.map Clu.asUnit) = r at h1
    obtain ⟨e', err⟩ := r
    cases err with
    | some x => exact h1
    | none => simp only; rw [refitGroups_cfg gs e']; exact h1

theorem grow_grow (e : Est) (F : Nat) (us vs : List Clu) :
    (e.grow P F us).grow P F vs = e.grow P F (us ++ vs) := by
  simp [Est.grow, insertAll_append, Nat.add_assoc]

theorem refitGroups_eq (F : Nat) : ∀ (gs : List (W × List Clu)) (e : Est), e.st.isLeavesOnly = false →
    e.st.HasF F → (∀ g ∈ gs, g.2 ≠ []) →
    (∀ g ∈ gs, ∀ u ∈ g.2, u.ls.length = F) →
    refitGroups pol e gs = (e.grow (pol e.cfg) F ((gs.flatMap (·.2)).map Clu.asUnit), none)
  | [], e, _, _, _, _ => rfl
  | g :: gs, e, hlo, hF, hne, hlen => by
    have h1 := fitBuffers_eq (pol e.cfg) (us := g.2.map Clu.asUnit) hlo hF
      (by simpa using hne g (by simp))
      (by intro u hu; obtain ⟨c, hc, rfl⟩ := List.mem_map.mp hu; exact hlen g (by simp) c hc)
    have h2 := refitGroups_eq F gs (e.grow (pol e.cfg) F (g.2.map Clu.asUnit))
      (insertAll_isLeavesOnly _ _ _ hlo _)
      (grow_F _ hlo hF _) (fun g' hg' => hne g' (List.mem_cons_of_mem _ hg'))
      (fun g' hg' => hlen g' (List.mem_cons_of_mem _ hg'))
    rw [refitGroups, h1]
    simp only [h2, grow_cfg, grow_grow, List.flatMap_cons, List.map_append]

/-! ### `fit` -/

/-- the labelled rows of a `fit` call, as the model builds them (`zip` truncates to the
shorter list) -/
def fitLabelled (e : Est) (rows : List Row) : Option (List Nat) → List (Nat × Row)
  | none => (List.range' e.numFitted rows.length).zip rows
  | some ls => ls.zip rows

theorem fit_fitRows (e : Est) (r0 : Row) (rest : List Row) (labels : Option (List Nat))
    (hlo : e.st.isLeavesOnly = false) :
    fit P e (r0 :: rest) labels =
      let r := fitRows P e.cfg.bf ((e.st.F?).getD r0.length) e.st e.numFitted (fitLabelled e (r0 :: rest) labels)
      ({ e with st := r.1, numFitted := r.2.1 }, r.2.2) := by
  unfold fit
  cases hst : e.st with
  | leavesOnly F' ls => rw [hst] at hlo; cases hlo
  | uninit => cases labels <;> rfl
  | full hh F'' root chain next => cases labels <;> rfl

theorem fit_leavesOnly (e : Est) (rows : List Row) (labels : Option (List Nat))
    (hlo : e.st.isLeavesOnly = true) : (fit P e rows labels).1 = e := by
  unfold fit
  cases rows with
  | nil => rfl
  | cons r0 rest =>
    cases hst : e.st with
    | leavesOnly F' ls => rfl
    | uninit => rw [hst] at hlo; simp [TreeSt.isLeavesOnly] at hlo
    | full hh F'' root chain next => rw [hst] at hlo; simp [TreeSt.isLeavesOnly] at hlo

/-- the labelled rows a `fit` call inserts: those before the first malformed one, none once the
inner nodes are released -/
def fitGood (F : Nat) (e : Est) (rows : List Row) (labels : Option (List Nat)) : List (Nat × Row) :=
  if e.st.isLeavesOnly then [] else goodPrefix F (fitLabelled e rows labels)

theorem fitGood_prefix (F : Nat) (e : Est) (rows : List Row) (labels : Option (List Nat)) :
    fitGood F e rows labels <+: fitLabelled e rows labels := by
  unfold fitGood; split
  · exact List.nil_prefix
  · exact List.takeWhile_prefix _

theorem mem_fitGood {F : Nat} {e : Est} {rows : List Row} {labels : Option (List Nat)} {p : Nat × Row}
    (hp : p ∈ fitGood F e rows labels) : p.2.length = F ∧ e.st.isLeavesOnly = false := by
  unfold fitGood at hp; split at hp
  · cases hp
  · exact ⟨by simpa [rowOk] using List.mem_takeWhile_imp (p := fun q : Nat × Row => rowOk F q.2) hp,
      Bool.eq_false_iff.mpr ‹_›⟩

theorem fitGood_all {F : Nat} {e : Est} {rows : List Row} (labels : Option (List Nat))
    (hlo : e.st.isLeavesOnly = false) (h : ∀ r ∈ rows, r.length = F) :
    fitGood F e rows labels = fitLabelled e rows labels := by
  rw [fitGood, hlo, if_neg Bool.false_ne_true]
  exact goodPrefix_all F _ fun p hp => h _ (by cases labels <;> exact (List.of_mem_zip hp).2)

theorem fit_eq (F : Nat) (e : Est) (r0 : Row) (rest : List Row) (labels : Option (List Nat))
    (hlo : e.st.isLeavesOnly = false) (hF : (e.st.F?).getD r0.length = F) :
    fit P e (r0 :: rest) labels =
      (e.grow P F ((goodPrefix F (fitLabelled e (r0 :: rest) labels)).map fun p => Clu.ofRow p.2 p.1),
        if (goodPrefix F (fitLabelled e (r0 :: rest) labels)).length = (fitLabelled e (r0 :: rest) labels).length
        then none else some Err.value) := by
  rw [fit_fitRows P e r0 rest labels hlo, hF, fitRows_eq P e.cfg.bf F _ e.numFitted hlo]
  simp [Est.grow, Function.comp_def, Clu.ofRow]

theorem fit_grow (F : Nat) (e : Est) (rows : List Row) (labels : Option (List Nat))
    (hF : ∀ r0, rows.head? = some r0 → (e.st.F?).getD r0.length = F) :
    (fit P e rows labels).1 = e.grow P F ((fitGood F e rows labels).map fun p => Clu.ofRow p.2 p.1) := by
  unfold fitGood
  cases hlo : e.st.isLeavesOnly with
  | true => exact fit_leavesOnly P _ _ _ hlo
  | false =>
    cases rows with
    | nil => cases labels <;> simp [fit, fitLabelled, goodPrefix]
    | cons r0 rest => rw [fit_eq P F e r0 rest labels hlo (hF r0 rfl)]; rfl

/-! ### `delete_internal_nodes`, `refine_inplace`, `recluster_inplace` -/

theorem sortedClus_coe {st : TreeSt} (h : st.OK) : (st.sortedClus : Multiset Clu) = st.lclusM := by
  rw [← TreeSt.leafClus_coe h]
  exact Multiset.coe_eq_coe.mpr (sortClus_perm _)

theorem mem_of_coe_eq {α : Type} {l : List α} {M : Multiset α} (h : (l : Multiset α) = M) (x : α) :
    x ∈ l ↔ x ∈ M := by rw [← h]; rfl

theorem TreeSt.mem_sortedClus {st : TreeSt} (h : st.OK) {c : Clu} : c ∈ st.sortedClus ↔ c ∈ st.lclusM :=
  mem_of_coe_eq (sortedClus_coe h) c

theorem TreeSt.mem_leafClus {st : TreeSt} (h : st.OK) {c : Clu} : c ∈ st.leafClus ↔ c ∈ st.lclusM :=
  mem_of_coe_eq (TreeSt.leafClus_coe h) c

theorem shuffled_coe {st : TreeSt} (h : st.OK) (p : Option (Option (List Nat))) :
    ((shuffled st.sortedClus p : List Clu) : Multiset Clu) = st.lclusM := by
  rw [← sortedClus_coe h]
  unfold shuffled
  split
  · exact Multiset.coe_eq_coe.mpr (applyPerm_perm _ _)
  · rfl

theorem delInternal_cases (e : Est) :
    (delInternal e).1 = e ∨ ∃ F, (delInternal e).1 = { e with st := .leavesOnly F e.st.leaves } := by
  unfold delInternal
  split
  · exact Or.inl rfl
  · exact Or.inl rfl
  · exact Or.inl rfl
  · exact Or.inr ⟨_, rfl⟩

theorem delInternal_lclus {e : Est} (hok : e.st.OK) : (delInternal e).1.st.lclusM = e.st.lclusM := by
  rcases delInternal_cases e with h1 | ⟨F', h1⟩ <;> rw [h1]
  exact TreeSt.leafClus_coe hok

theorem delInternal_cfg (e : Est) : (delInternal e).1.cfg = e.cfg := by
  rcases delInternal_cases e with h | ⟨_, h⟩ <;> rw [h]

theorem delInternal_numFitted (e : Est) : (delInternal e).1.numFitted = e.numFitted := by
  rcases delInternal_cases e with h | ⟨_, h⟩ <;> rw [h]

theorem delInternal_sortedClus (e : Est) : (delInternal e).1.st.sortedClus = e.st.sortedClus := by
  rcases delInternal_cases e with h | ⟨_, h⟩
  · rw [h]
  · rw [h]; rfl

theorem refitGroups_refined {F : Nat} {e : Est} (hok : e.st.OK) (hlen : ∀ c ∈ e.st.lclusM, c.ls.length = F)
    {k : Nat} {data : List Row} {im : Nat} {srt : Bool} (hdata : ∀ r ∈ data, r.length = F)
    {groups : List (W × List Clu)} (hg : refineGroups e.st.sortedClus k data im srt = .ok groups) :
    refitGroups pol e.reset groups =
      (e.reset.grow (pol e.cfg) F ((groups.flatMap (·.2)).map Clu.asUnit), none) := by
  refine refitGroups_eq pol F groups e.reset rfl (fun _ h => (by cases h)) (refineGroups_spec hg).1 fun g hg' u hu => ?_
  rcases refineGroups_mem hg hg' hu with h | ⟨id, r, _, hr, rfl⟩
  · exact hlen u ((TreeSt.mem_sortedClus hok).mp h)
  · rw [single_ls_length]; exact hdata r (List.mem_of_getElem? hr)

theorem refitGroups_regrouped {F : Nat} (cfg : Cfg) {st : TreeSt} (hlen : ∀ c ∈ st.lclusM, c.ls.length = F)
    {bfs : List Clu} (hb : (bfs : Multiset Clu) = st.lclusM) :
    refitGroups pol (init cfg) (groupByW bfs) =
      ((init cfg).grow (pol cfg) F (((groupByW bfs).flatMap (·.2)).map Clu.asUnit), none) := by
  obtain ⟨_, hne, hflat⟩ := groupByW_spec bfs
  rw [← hb, ← hflat] at hlen
  exact refitGroups_eq pol F (groupByW bfs) (init cfg) rfl (fun _ h => (by cases h)) hne
    fun g hg u hu => hlen u (List.mem_flatMap.mpr ⟨g, hg, hu⟩)

theorem refine_grow {F : Nat} {e : Est} (hok : e.st.OK) (hlen : ∀ c ∈ e.st.lclusM, c.ls.length = F)
    (n : Int) {data : List Row} (hdata : ∀ r ∈ data, r.length = F) (im : Nat) (srt : Bool) :
    (refine pol e n data im srt).1 = e ∨ (refine pol e n data im srt).1 = (delInternal e).1 ∨
    ∃ groups, refineGroups e.st.sortedClus n.toNat data im srt = .ok groups ∧
      (refine pol e n data im srt).1 = e.reset.grow (pol e.cfg) F ((groups.flatMap (·.2)).map Clu.asUnit) := by
  unfold refine
  split
  · exact Or.inl rfl
  · have hs0 := delInternal_sortedClus e
    have hc0 := delInternal_cfg e
    generalize delInternal e = di at hs0 hc0
    obtain ⟨e0, x⟩ := di
    cases x with
    | some x => exact Or.inr (Or.inl rfl)
    | none =>
      simp only at hs0 hc0 ⊢
      split
      · exact Or.inr (Or.inl rfl)
      · split
        · exact Or.inr (Or.inl rfl)
        · rename_i groups hg
          rw [hs0] at hg
          refine Or.inr (Or.inr ⟨groups, hg, ?_⟩)
          rw [show e0.reset = e.reset by simp [Est.reset, hc0],
            refitGroups_refined pol hok hlen hdata hg]

/-- one round of `recluster_inplace`: the tree rebuilt, under the raised threshold, from its own
leaf clusters `us` in some order -/
def Est.round (e : Est) (F : Nat) (extra : Rat) (us : List Clu) : Est :=
  (init { e.cfg with thr := fadd e.cfg.thr extra }).grow (pol { e.cfg with thr := fadd e.cfg.thr extra }) F
    (us.map Clu.asUnit)

/-- `recluster_inplace` is at most `K` rounds; `R j` is what is known after `j` of them.  How many are made is
not known in advance (early stop), hence `∃ j'` -/
theorem reclusterLoop_induct (F : Nat) (extra : Rat) (stop : Bool) (K : Nat) {R : Nat → Est → Prop}
    (hR : ∀ j e, R j e → e.st.OK ∧ ∀ c ∈ e.st.lclusM, c.ls.length = F)
    (hround : ∀ j e (us : List Clu), j < K → R j e → (us : Multiset Clu) = e.st.lclusM →
      R (j + 1) (e.round pol F extra us)) :
    ∀ (k : Nat) (perms : List (Option (List Nat))) (before j : Nat) (e : Est), j + k ≤ K → R j e →
      ∃ j', R j' (reclusterLoop pol extra stop k perms before e).1
  | 0, _, _, j, e, _, h => ⟨j, h⟩
  | k+1, perms, before, j, e, hk, h => by
    unfold reclusterLoop
    simp only
    split
    · exact ⟨j, h⟩
    · obtain ⟨hok, hlen⟩ := hR j e h
      have hperm := shuffled_coe hok perms.head?
      have hflat := (groupByW_spec (shuffled e.st.sortedClus perms.head?)).2.2
      have := refitGroups_regrouped pol { e.cfg with thr := fadd e.cfg.thr extra } hlen hperm
      simp only [Est.reset, init] at this ⊢
      simp only [this]
      exact reclusterLoop_induct F extra stop K hR hround k perms.tail _ (j + 1) _ (by omega)
        (hround j e _ (by omega) h (hflat.trans hperm))

end BB
