/-
GenEq — the *generated* model (BBGen/Gen.lean, written by tools/py2lean.py from the Python
sources on every run) computes what the hand-written model computes.

Each theorem relates one translated Python function, applied to values of the algebra
PyNum.lean that represent its real arguments (arrays of unsigned sums, Python ints, floats),
to the definition of BBModel that the property theorems are about.  Hypotheses name exactly
what the relation needs: sums bounded by the count, counts below 2^53 (exact int → float64
conversion), and non-zero float denominators (`x/0` is outside both models).
When the Python source changes, Gen.lean changes, and these proofs are re-checked against the
new text; if one no longer closes, the proof gate reports which (harness/checklib.py).

How a translated function is called.  After `expf` (it stands for `np.exp`) a method takes the attributes of `self` as
`self_<attr>`, in the order of the class's attribute table (`__slots__`, dataclass fields, or the attributes the translator
is told to follow), then the Python parameters in order (an argument that is an object of a translated class: its
attributes), then, in alphabetical order, the inputs its body reads from outside: results of calls that are not
translated, attributes of other objects.  A function or a method that only reads returns a `PV`.  A method that assigns
attributes returns the list of the new attribute values, preceded by its value when it returns one or can raise (`pynone`,
the value, or `err …` with the attributes as they were left).  A procedure with effects returns the effect records
followed by the attribute values (a function with effects: followed by its value); an effect record is a tag string
followed by its arguments.

Here: `min_safe_uint`, `jt_isim_from_sum` (`gen_isim'`), `centroid_from_sum`, `jt_isim_radius_compl_from_sum`, the six
merge criteria (`gen_accept`) and their dispatch by name, the page-release manager and the row loop around it;
the other translated functions are in GenEq2 to GenEq14.
-/
import BBGen.Gen
import BBProofs.PyNum
import BBProofs.Isim
import BBProofs.Merges
import BBProofs.MemPages
import Mathlib.Tactic.Ring
import Mathlib.Tactic.Linarith

namespace BB
open PV

theorem gen_min_safe_uint (expf : Rat → Rat) (n : Nat) :
    BBGen.min_safe_uint expf (PV.int n) =
      match minSafe? n with
      | some w => PV.dtype (some w)
      | none => PV.err "ValueError" := by
  simp only [BBGen.min_safe_uint, pv]
  cases minSafe? n <;> rfl

/-- the float denominator of `isimFromSum` -/
def isimDen (ls : List Nat) (n : Nat) : Rat :=
  let S := u64 ls.sum
  let Q := u64 (ls.map (fun k => k * k)).sum
  let a := ofNat (u64 (Q + 2 ^ 64 - S)) / 2
  fsub (fadd a (ofNat (u64 (n * S)))) (ofNat Q)

theorem isimDen_of_no_wrap (ks : List Nat) (n : Nat) (hk : ∀ k ∈ ks, k ≤ n) (hb : n * ks.sum < 2 ^ 64) :
    isimDen ks n = fsub (fadd (ofNat (sqSum ks - ks.sum) / 2) (ofNat (n * ks.sum))) (ofNat (sqSum ks)) := by
  obtain ⟨h1, h2, h3, h4⟩ := isim_no_wrap ks n hk hb
  unfold sqSum at h2 h4
  simp only [isimDen, h1, h2, h3, h4, sqSum]

/-- what the Python function returns, as a value of the algebra -/
def isimPV (ls : List Nat) (n : Nat) : PV :=
  if n < 2 then PV.flt none
  else if u64 ls.sum = 0 then PV.int 1
  else PV.flt (isimFromSum ls n)

/-- the division is needed only when the function gets as far as it: `hden` speaks of that branch alone -/
theorem gen_isim' (expf : Rat → Rat) (w : W) (ls : List Nat) (n : Nat)
    (hls : ∀ k ∈ ls, k < 2 ^ 64) (hn : n < 2 ^ 64) (hden : 2 ≤ n → u64 ls.sum ≠ 0 → isimDen ls n ≠ 0) :
    BBGen.jt_isim_from_sum expf (PV.arr w ls) (PV.int n) = isimPV ls n := by
  simp only [BBGen.jt_isim_from_sum, isimPV, pv, map_wrap_u64 ls hls, npDot_arr _ _ _ _ rfl, Nat.cast_lt_ofNat,
    Nat.cast_eq_zero]
  by_cases h2 : n < 2
  · simp only [h2, if_true, decide_true]
  by_cases h0 : u64 ls.sum = 0
  · simp only [h2, h0, if_false, if_true, decide_false, decide_true, Bool.false_eq_true]
  simp only [h2, h0, if_false, decide_false, Bool.false_eq_true, List.zipWith_self, wmax_self, wrap_u64]
  rw [wrapInt_sub .u64 _ (u64 ls.sum) (Nat.le_of_lt (Nat.mod_lt _ (by norm_num))), truediv_two (toFlt_uns _ _),
    mul_int_uns _ _ _ (by omega) (by exact_mod_cast hn), ← Nat.cast_mul, wrapInt_natCast]
  simp only [pv, rnd_idem]
  show PV.truediv (flt (some _)) (flt (some (isimDen ls n))) = _
  rw [truediv_flt_flt _ _ (hden (by omega) h0)]
  rw [isim_of_sum_ne_zero ls n (by omega) h0]
  rfl

theorem gen_isim (expf : Rat → Rat) (w : W) (ls : List Nat) (n : Nat)
    (hls : ∀ k ∈ ls, k < 2 ^ 64) (hn : n < 2 ^ 64) (hden : isimDen ls n ≠ 0) :
    BBGen.jt_isim_from_sum expf (PV.arr w ls) (PV.int n) = isimPV ls n :=
  gen_isim' expf w ls n hls hn (fun _ _ => hden)

/-- the two shapes `jt_isim_from_sum` returns for a value `j` of the model: the float, or the Python int `1` -/
def IsimVal (v : PV) (j : Option Rat) : Prop := v = PV.flt j ∨ (v = PV.int 1 ∧ j = some 1)

/-- hence next to a float operand it is the float `j` (`arith_flt_r`, `lt_flt_r`, `ge_flt_r`) -/
theorem IsimVal.toFlt {v : PV} {j : Option Rat} (h : IsimVal v j) : PV.toFlt v = some j := by
  rcases h with rfl | ⟨rfl, rfl⟩
  · rfl
  · simp only [pv]

theorem isimPV_of_lt {ls : List Nat} {n : Nat} (h : n < 2) : isimPV ls n = PV.flt none := if_pos h

theorem isimPV_of_sum_zero {ls : List Nat} {n : Nat} (h2 : 2 ≤ n) (h0 : u64 ls.sum = 0) : isimPV ls n = PV.int 1 := by
  rw [isimPV, if_neg (by omega), if_pos h0]

theorem isimPV_of_pos {ls : List Nat} {n : Nat} (h2 : 2 ≤ n) (h0 : u64 ls.sum ≠ 0) :
    isimPV ls n = PV.flt (isimFromSum ls n) := by
  rw [isimPV, if_neg (by omega), if_neg h0]

theorem isimPV_val (ls : List Nat) (n : Nat) : IsimVal (isimPV ls n) (isimFromSum ls n) := by
  by_cases h2 : n < 2
  · exact .inl (by rw [isimPV_of_lt h2, isim_none ls n h2])
  by_cases h0 : u64 ls.sum = 0
  · exact .inr ⟨isimPV_of_sum_zero (by omega) h0, isim_of_sum_zero ls n (by omega) h0⟩
  · exact .inl (isimPV_of_pos (by omega) h0)

/-- `(jx·N − jy·M) / 2` in float64: the radius complement, and the left side of the legacy criterion -/
def halfDiff (jx jy : Option Rat) (N M : Nat) : Option Rat :=
  match jx, jy with
  | some a, some b => some (fsub (fmul a (ofNat N)) (fmul b (ofNat M)) / 2)
  | _, _ => none

/-- the code's `(x * N - y * M) / 2` on iSIM values of either shape is `halfDiff` (with two ints `1` the subtraction is exact) -/
theorem IsimVal.truediv_sub_mul {x y : PV} {jx jy : Option Rat} (hx : IsimVal x jx) (hy : IsimVal y jy) {N M : Nat}
    (hN : N < 2 ^ 53) (hM : M < 2 ^ 53) :
    PV.truediv (PV.sub (PV.mul x (PV.int N)) (PV.mul y (PV.int M))) (PV.int 2) = PV.flt (halfDiff jx jy N M) := by
  -- the code halves `rnd` of a difference that is rounded already, and multiplies by an int `1` exactly where the model
  -- rounds `1 * rnd q`
  have r (a b : Rat) : rnd (fsub a b) = fsub a b := rnd_idem _
  have e (q : Rat) : fmul 1 (rnd q) = rnd q := by unfold fmul; rw [one_mul, rnd_idem]
  rcases hx with rfl | ⟨rfl, rfl⟩ <;> rcases hy with rfl | ⟨rfl, rfl⟩
  · rw [mul_flt_int, mul_flt_int, sub_flt_flt, truediv_two (toFlt_flt _)]
    cases jx <;> cases jy <;> simp only [halfDiff, pv, ofNat, r, Int.cast_natCast]
  · rw [mul_flt_int, mul_int_int, one_mul, sub_flt_int, truediv_two (toFlt_flt _)]
    cases jx <;> simp only [halfDiff, pv, ofNat, e, r, Int.cast_natCast]
  · rw [mul_flt_int, mul_int_int, one_mul, sub_int_flt, truediv_two (toFlt_flt _)]
    cases jy <;> simp only [halfDiff, pv, ofNat, e, r, Int.cast_natCast]
  · -- two ints: the difference is taken in ℤ and rounded once; both counts are floats already
    rw [mul_int_int, mul_int_int, one_mul, one_mul, sub_int_int, truediv_two (toFlt_int _)]
    simp only [halfDiff, pv, ofNat, e, fsub, rnd_idem, Int.cast_sub, Int.cast_natCast]
    rw [rnd_natCast_of_lt N hN, rnd_natCast_of_lt M hM]

theorem fmul_half_natCast (n : Nat) (hn : n < 2 ^ 53) :
    fmul (rnd ((n : Int) : Rat)) ((1 : Rat) / 2) = (n : Rat) / 2 := by
  rw [Int.cast_natCast, rnd_natCast_of_lt n hn, fmul, mul_one_div, rnd_half, rnd_natCast_of_lt n hn]

theorem gen_centroid_unpacked (expf : Rat → Rat) (w : W) (ls : List Nat) (n : Nat)
    (hk : ∀ k ∈ ls, k ≤ n) (hn : n < 2 ^ 53) :
    BBGen.centroid_from_sum expf (PV.arr w ls) (PV.int n) (PV.bool false)
      = PV.arr .u8 (rowToNat (centroidFromSum ls n)) := by
  by_cases h1 : n ≤ 1
  · simp only [BBGen.centroid_from_sum, centroidFromSum, pv, Nat.cast_le_one, h1, rowToNat, List.map_map]
    refine congrArg _ (List.map_congr_left fun k hkm => ?_)
    obtain rfl | rfl : k = 0 ∨ k = 1 := by have := hk k hkm; omega
    all_goals rfl
  · simp only [BBGen.centroid_from_sum, centroidFromSum, pv, Nat.cast_le_one, h1, fmul_half_natCast n hn, ge_arr_flt,
      rowToNat, List.map_map]
    refine congrArg _ (List.map_congr_left fun k hkm => ?_)
    -- `k ≥ n/2` on floats is `n ≤ 2k`: both sides are exact below 2^53
    have e : ((n : Rat) / 2 ≤ rnd (k : Rat)) ↔ n ≤ 2 * k := by
      rw [rnd_natCast_of_lt k (by have := hk k hkm; omega), div_le_iff₀ (by norm_num)]
      exact_mod_cast (by omega : n ≤ k * 2 ↔ n ≤ 2 * k)
    simp only [Function.comp, e]

theorem packbits_rowToNat (r : Row) : PV.packbits (PV.arr .u8 (rowToNat r)) = PV.arr .u8 (pack r) := by
  rw [packbits_arr, rowToNat_ne_zero]

theorem gen_centroid_packed (expf : Rat → Rat) (w : W) (ls : List Nat) (n : Nat)
    (hk : ∀ k ∈ ls, k ≤ n) (hn : n < 2 ^ 53) :
    BBGen.centroid_from_sum expf (PV.arr w ls) (PV.int n) (PV.bool true)
      = PV.arr .u8 (pack (centroidFromSum ls n)) := by
  have h := gen_centroid_unpacked expf w ls n hk hn
  -- only the control flow is evaluated: the packed result is `packbits` of the unpacked one
  simp only [BBGen.centroid_from_sum, le_int_int, ite_bool, Bool.false_eq_true, if_false, if_true] at h ⊢
  rw [← apply_ite PV.packbits, h, packbits_rowToNat]

/-- the list `new_ls_1` of `jt_isim_radius_compl_from_sum` -/
def ls1 (ls : List Nat) (n : Nat) : List Nat := (addLs ls (rowToNat (centroidFromSum ls n))).map u64

theorem ls1_lt (ls : List Nat) (n : Nat) : ∀ k ∈ ls1 ls n, k < 2 ^ 64 := by
  intro k hk
  simp only [ls1, List.mem_map] at hk
  obtain ⟨a, _, rfl⟩ := hk
  exact Nat.mod_lt _ (by norm_num)

theorem gen_centroid_length (ls : List Nat) (n : Nat) : (rowToNat (centroidFromSum ls n)).length = ls.length := by
  unfold centroidFromSum rowToNat
  split <;> simp

theorem radiusCompl_eq (ls : List Nat) (n : Nat) :
    radiusCompl ls n = halfDiff (isimFromSum (ls1 ls n) (n + 1)) (isimFromSum ls n) (n + 1) (n - 1) := by
  simp only [radiusCompl, halfDiff, ls1]
  cases isimFromSum ls n <;> cases isimFromSum (List.map u64 (addLs ls (rowToNat (centroidFromSum ls n)))) (n + 1) <;> rfl

theorem gen_radius (expf : Rat → Rat) (w : W) (ls : List Nat) (n : Nat)
    (hk : ∀ k ∈ ls, k ≤ n) (hn : n + 1 < 2 ^ 53)
    (hden : 2 ≤ n → u64 ls.sum ≠ 0 → isimDen ls n ≠ 0)
    (hden1 : 2 ≤ n + 1 → u64 (ls1 ls n).sum ≠ 0 → isimDen (ls1 ls n) (n + 1) ≠ 0) :
    BBGen.jt_isim_radius_compl_from_sum expf (PV.arr w ls) (PV.int n) = PV.flt (radiusCompl ls n) := by
  have hls : ∀ k ∈ ls, k < 2 ^ 64 := fun k h => by have := hk k h; omega
  have h1 := gen_isim' expf .u64 (ls1 ls n) (n + 1) (ls1_lt ls n) (by omega) hden1
  rw [ls1, Nat.cast_add, Nat.cast_one] at h1
  simp only [BBGen.jt_isim_radius_compl_from_sum, gen_centroid_unpacked expf w ls n hk (by omega),
    npAdd_arr _ _ _ _ _ (gen_centroid_length ls n).symm, zipWith_wrap_eq ls _ (gen_centroid_length ls n).symm, add_int_int, sub_int_int, h1,
    gen_isim' expf w ls n hls (by omega) hden]
  by_cases h0 : n = 0
  · subst h0; rw [radiusCompl_eq]; simp [isimPV, isim_none, halfDiff, pv]
  · rw [← Nat.cast_pred (Nat.pos_of_ne_zero h0), ← Nat.cast_succ,
      (isimPV_val _ _).truediv_sub_mul (isimPV_val _ _) hn (by omega), radiusCompl_eq]
    rfl

/-- a summary the tree can produce: sums bounded by the count, count below 2^53, and the float
denominators of its two iSIM evaluations non-zero (no `x/0`) -/
structure SumOk (s : Summary) : Prop where
  le : ∀ k ∈ s.ls, k ≤ s.n
  /-- `n + 1`: the radius complement evaluates iSIM once more with the centroid added as a member -/
  small : s.n + 1 < 2 ^ 53
  den : 2 ≤ s.n → u64 s.ls.sum ≠ 0 → isimDen s.ls s.n ≠ 0
  den1 : 2 ≤ s.n + 1 → u64 (ls1 s.ls s.n).sum ≠ 0 → isimDen (ls1 s.ls s.n) (s.n + 1) ≠ 0

theorem gen_isim_ok (expf : Rat → Rat) (w : W) (s : Summary) (h : SumOk s) :
    BBGen.jt_isim_from_sum expf (PV.arr w s.ls) (PV.int s.n) = isimPV s.ls s.n :=
  gen_isim' expf w s.ls s.n (fun k hk => by have := h.le k hk; have := h.small; omega)
    (by have := h.small; omega) h.den

theorem gen_radius_ok (expf : Rat → Rat) (w : W) (s : Summary) (h : SumOk s) :
    BBGen.jt_isim_radius_compl_from_sum expf (PV.arr w s.ls) (PV.int s.n) = PV.flt (radiusCompl s.ls s.n) :=
  gen_radius expf w s.ls s.n h.le h.small h.den h.den1

theorem fcmp_ge (x : Option Rat) (t : Rat) :
    PV.fcmp (fun p q => decide (q ≤ p)) x (some t) = geOpt x t := by
  cases x <;> rfl

theorem fcmp_lt (x : Option Rat) (t : Rat) :
    PV.fcmp (fun p q => decide (p < q)) x (some t) = ltOpt x t := by
  cases x <;> rfl

/-- Python's `1e-3` -/
def decay0 : Rat := 1152921504606847 / 1152921504606846976

/-- the exp table the code uses, as a function of `np.exp` -/
def tabOf (expf : Rat → Rat) : ExpTab :=
  { E := fun n => expf (fmul (-decay0) (rnd (n : Rat))), off := expf (fmul (-decay0) (rnd 1000)) }

theorem gen_slack (expf : Rat → Rat) (tol : Rat) (n : Nat) :
    PV.max2 (PV.mul (PV.flt (some tol))
        (PV.sub (PV.exp expf (PV.mul (PV.neg (PV.flt (some decay0))) (PV.int n)))
          (PV.flt (some (tabOf expf).off))))
      (PV.flt (some ((0 : Rat) / 1)))
    = PV.flt (some (slack (tabOf expf) tol n)) := by
  simp only [pv, zero_div]
  rfl

theorem IsimVal.ge_thr {v : PV} {j : Option Rat} (h : IsimVal v j) (thr : Rat) :
    PV.ge v (PV.flt (some thr)) = PV.bool (geOpt j thr) := by
  rw [PV.ge_flt_r _ h.toFlt, fcmp_ge]

/-- the guards the three tolerance criteria share, against `tolTest`: reject below the threshold (`a`), accept when `p`,
else the comparison `t` -/
theorem tol_guard (a : Bool) (p : Prop) [Decidable p] (ns os : Option Rat) (test : Rat → Rat → Bool) (t : Bool)
    (ht : t = tolTest False ns os test) :
    (if a then PV.bool false else if decide p then PV.bool true else PV.bool t) = PV.bool (!a && tolTest p ns os test) := by
  subst ht
  cases a
  · by_cases hp : p
    · rw [tolTest_pos hp, decide_eq_true hp]; rfl
    · rw [decide_eq_false hp]; unfold tolTest; rw [if_neg hp]; rfl
  · rfl

/-- the body of the two tolerance criteria: the new statistic against the old one less the slack -/
theorem IsimVal.tol_body {vn vo : PV} {jn jo : Option Rat} (hn : IsimVal vn jn) (ho : IsimVal vo jo) (thr s : Rat) (k : Nat) :
    PV.ite (PV.lt vn (PV.flt (some thr))) (PV.bool false)
        (PV.ite (PV.eq (PV.int k) (PV.int 1)) (PV.bool true) (PV.ge vn (PV.sub vo (PV.flt (some s)))))
      = PV.bool (!ltOpt jn thr && tolTest (k = 1) jn jo fun nd od => decide (fsub od s ≤ nd)) := by
  rw [PV.lt_flt_r _ hn.toFlt, fcmp_lt, PV.sub_flt_r _ ho.toFlt, PV.ge_flt_r _ hn.toFlt, eq_int_int, ite_bool,
    ite_bool, decide_eq_decide.mpr Nat.cast_eq_one]
  exact tol_guard _ _ _ _ _ _ (by cases jn <;> cases jo <;> rfl)

/-- the body of the legacy criterion: `halfDiff` against the old statistic less the tolerance -/
theorem IsimVal.legacy_body {vn vo : PV} {jn jo : Option Rat} (hn : IsimVal vn jn) (ho : IsimVal vo jo) (thr tol : Rat)
    (k k' N M : Nat) :
    PV.ite (PV.lt vn (PV.flt (some thr))) (PV.bool false)
        (PV.ite (PV.or (PV.eq (PV.int k) (PV.int 1)) (PV.ne (PV.int k') (PV.int 1))) (PV.bool true)
          (PV.ge (PV.flt (halfDiff jn jo N M)) (PV.sub vo (PV.flt (some tol)))))
      = PV.bool (!ltOpt jn thr && tolTest (k = 1 ∨ k' ≠ 1) jn jo fun nd od =>
          decide (fsub od tol ≤ fsub (fmul nd (ofNat N)) (fmul od (ofNat M)) / 2)) := by
  rw [PV.lt_flt_r _ hn.toFlt, fcmp_lt, PV.sub_flt_r _ ho.toFlt, PV.ge_flt_flt, eq_int_int, ne_int_int, or_bool_bool,
    ite_bool, ite_bool, ← Bool.decide_or, decide_eq_decide.mpr (or_congr Nat.cast_eq_one (not_congr Nat.cast_eq_one))]
  exact tol_guard _ _ _ _ _ _ (by cases jn <;> cases jo <;> rfl)

/-- the object `get_merge_accept_fn(name, tol)` returns: class name and its attributes (decay, offset, tolerance) -/
def objOf (expf : Rat → Rat) (m : MergeFn) : PV :=
  match m.crit with
  | .radius => PV.obj "RadiusMerge" PV.pynone PV.pynone PV.pynone
  | .diameter => PV.obj "DiameterMerge" PV.pynone PV.pynone PV.pynone
  | .tolLegacy => PV.obj "ToleranceMerge" (PV.flt (some m.tol)) PV.pynone PV.pynone
  | .tolDiameter => PV.obj "ToleranceDiameterMerge" (PV.flt (some decay0)) (PV.flt (some (tabOf expf).off)) (PV.flt (some m.tol))
  | .tolRadius => PV.obj "ToleranceRadiusMerge" (PV.flt (some decay0)) (PV.flt (some (tabOf expf).off)) (PV.flt (some m.tol))
  | .never => PV.obj "NeverMerge" (PV.flt (some decay0)) (PV.flt (some (tabOf expf).off)) (PV.flt (some m.tol))

theorem gen_accept_never (expf : Rat → Rat) (a b c d e f g h i j : PV) (X : ExpTab) (tol thr : Rat)
    (new old nom : Summary) :
    BBGen.NeverMerge_call expf a b c d e f g h i j = PV.bool (accept ⟨.never, tol⟩ X thr new old nom) := rfl

/-- calling the object that `get_merge_accept_fn` builds, on summaries the tree can produce, is the model's
`accept` with the exp table read off `np.exp`.  `hO` is there for the `old_n - 1` of the legacy criterion. -/
theorem gen_accept (expf : Rat → Rat) (m : MergeFn) (thr : Rat) (new old nom : Summary)
    (w w' w'' : W) (hn : SumOk new) (ho : SumOk old) (hO : 1 ≤ old.n) :
    BBGen.MergeAcceptFunction_call expf (objOf expf m) (PV.flt (some thr)) (PV.arr w new.ls) (PV.int new.n)
        (PV.arr w' old.ls) (PV.arr w'' nom.ls) (PV.int old.n) (PV.int nom.n)
      = PV.bool (accept m (tabOf expf) thr new old nom) := by
  obtain ⟨c, tol⟩ := m
  have hn' := isimPV_val new.ls new.n
  have ho' := isimPV_val old.ls old.n
  -- `accept` is the threshold test and what the criterion asks beyond it (`accept_eq`); per class, the code computes both
  rw [accept_eq]
  cases c <;> simp only [objOf, BBGen.MergeAcceptFunction_call, thrOk, extra, stat, Bool.and_true]
  · simp only [BBGen.RadiusMerge_call, gen_radius_ok expf w new hn]
    exact IsimVal.ge_thr (.inl rfl) thr
  · simp only [BBGen.DiameterMerge_call, gen_isim_ok expf w new hn]
    exact hn'.ge_thr thr
  · simp only [BBGen.ToleranceDiameterMerge_call, gen_isim_ok expf w new hn, gen_isim_ok expf w' old ho, gen_slack]
    exact hn'.tol_body ho' thr _ old.n
  · simp only [BBGen.ToleranceRadiusMerge_call, gen_radius_ok expf w new hn, gen_radius_ok expf w' old ho, gen_slack]
    exact IsimVal.tol_body (.inl rfl) (.inl rfl) thr _ old.n
  · simp only [BBGen.ToleranceMerge_call, gen_isim_ok expf w new hn, gen_isim_ok expf w' old ho]
    rw [sub_int_int, ← Nat.cast_pred hO,
      hn'.truediv_sub_mul ho' (by have := hn.small; omega) (by have := ho.small; omega)]
    exact hn'.legacy_body ho' thr tol old.n nom.n new.n (old.n - 1)
  · rfl

theorem gen_init_tol (expf : Rat → Rat) (tol : Rat) :
    BBGen.ToleranceDiameterMerge_init expf (PV.flt (some tol)) (PV.int 1000)
        (PV.flt (some ((1152921504606847 : Rat) / 1152921504606846976))) (PV.bool true)
      = [PV.flt (some decay0), PV.flt (some (tabOf expf).off), PV.flt (some tol)] := by
  simp only [BBGen.ToleranceDiameterMerge_init, pv]
  rfl

theorem gen_dispatch (expf : Rat → Rat) (name : String) (tol : Rat) :
    BBGen.get_merge_accept_fn expf (PV.str name) (PV.flt (some tol)) =
      match getMergeFn name tol with
      | some m => objOf expf m
      | none => PV.err "ValueError" := by
  unfold BBGen.get_merge_accept_fn getMergeFn
  simp only [pv, gen_init_tol, BBGen.ToleranceMerge_init]
  -- the Python chain tests the six names in this order; each literal then evaluates on both sides
  by_cases h1 : name = "radius"
  · subst h1; rfl
  by_cases h2 : name = "diameter"
  · subst h2; rfl
  by_cases h3 : name = "tolerance-legacy"
  · subst h3; rfl
  by_cases h4 : name = "tolerance-diameter"
  · subst h4; rfl
  by_cases h5 : name = "tolerance-radius"
  · subst h5; rfl
  by_cases h6 : name = "never-merge"
  · subst h6; rfl
  -- any other name: refused by the code (every test fails) and unknown to the model
  have : Crit.ofName? name = none := by
    unfold Crit.ofName?
    split <;> first | contradiction | rfl
  simp only [this, beq_iff_eq, h1, h2, h3, h4, h5, h6, if_false, Option.map_none]

/-- the model parameters of a memory-mapped input: data address, header size, elements per row,
itemsize, `mmap.PAGESIZE`, rows; the release step is `PAGESIZE * 512` (`_memory.py`) -/
def pagesOf (data off ncols itemsize ps nrows : Nat) : Pages.Params :=
  ⟨data - off, off, ncols, itemsize, ps * 512, nrows⟩

/-- `int(a / b)` of an exact quotient below 2^53: the float division does not round -/
theorem toInt_truediv_of_eq (a b q : Nat) (hb : 0 < b) (h : a = b * q) (hq : q < 2 ^ 53) :
    PV.toInt (PV.truediv (PV.int a) (PV.int b)) = PV.int q := by
  have hbq : (b : Rat) ≠ 0 := by exact_mod_cast hb.ne'
  rw [truediv_nat a b hb, h, Nat.cast_mul, mul_div_cancel_left₀ _ hbq, rnd_natCast_of_lt q hq, toInt_flt_nat]

/-- `from_bb_input` on a 2-D `np.memmap` (`PV.bool true`, `ndim = PV.int 2`) with `can_release=None` -/
theorem gen_pages_init (expf : Rat → Rat) (data off ncols ps : Nat) (hc : 0 < ncols)
    (hP : ps * 512 < 2 ^ 53) (hb : off ≤ data) (itemsize nrows : Nat) :
    BBGen._ArrayMemPagesManager_from_bb_input expf PV.pynone (PV.int data) (PV.bool true) (PV.int 2)
        (PV.int off) (PV.int ncols) (PV.int ps)
      = if (pagesOf data off ncols itemsize ps nrows).canRelease then
          [PV.bool true, PV.int ((pagesOf data off ncols itemsize ps nrows).P : Nat),
            PV.int ((pagesOf data off ncols itemsize ps nrows).iters : Nat),
            PV.int ((pagesOf data off ncols itemsize ps nrows).base : Nat)]
        else [PV.bool false, PV.int ((pagesOf data off ncols itemsize ps nrows).P : Nat), PV.int 0, PV.int 0] := by
  have e1 : ((ps : Int) * 512) = ((ps * 512 : Nat) : Int) := (Nat.cast_mul ps 512).symm
  have e2 : ((data : Int) - off) = ((data - off : Nat) : Int) := (Nat.cast_sub hb).symm
  dsimp only [pagesOf, Pages.Params.canRelease, Pages.Params.iters]
  simp only [BBGen._ArrayMemPagesManager_from_bb_input, pv, e1, e2, mod_nat _ _ hc, Nat.cast_eq_zero, Nat.cast_lt,
    bne_iff_ne.mpr hc.ne', Bool.true_and, beq_iff_eq, Bool.and_eq_true, decide_eq_true_eq]
  split_ifs with h
  · obtain ⟨q, hq⟩ := Nat.dvd_of_mod_eq_zero h.1
    have hq53 : q < 2 ^ 53 := lt_of_le_of_lt (Nat.le_mul_of_pos_left q hc) (hq ▸ hP)
    rw [toInt_truediv_of_eq _ _ q hc hq hq53, hq, Nat.mul_div_cancel_left q hc]
  · rfl

/-! The manager's attributes are `can_release`, `_pagesizex`, `_iters_per_pagex`, `_curr_page_start_addr`, in this order;
`release_curr_page_and_update_addr` returns one `_madvise_dontneed addr len` record followed by the four of them. -/

theorem gen_pages_should (expf : Rat → Rat) (can P addr : PV) (iters k : Nat) (hi : 0 < iters) :
    BBGen._ArrayMemPagesManager_should_release_curr_page expf can P (PV.int iters) addr (PV.int k)
      = PV.bool (k % iters == 0) := by
  simp only [BBGen._ArrayMemPagesManager_should_release_curr_page, mod_nat _ _ hi, pv, Nat.cast_eq_zero, beq_eq_decide]

theorem gen_pages_release (expf : Rat → Rat) (can : PV) (P iters addr : Nat) :
    BBGen._ArrayMemPagesManager_release_curr_page_and_update_addr expf can (PV.int P) (PV.int iters) (PV.int addr)
      = [PV.str "_madvise_dontneed", PV.int addr, PV.int P, can, PV.int P, PV.int iters, PV.int ((addr + P : Nat))] := by
  simp only [BBGen._ArrayMemPagesManager_release_curr_page_and_update_addr, pv, Nat.cast_add]

/-- the row loop of `BitBirch.fit` around the manager (bitbirch.py: `arr_idx += 1; if mmanager.can_release
and mmanager.should_release_curr_page(arr_idx): mmanager.release_curr_page_and_update_addr()`), with
the manager's three methods as translated from `_memory.py`.  This loop is the one hand-written
piece; it returns the `_madvise_dontneed(addr, len)` calls together with the row count at the call. -/
def codeLoop (expf : Rat → Rat) : (fuel k : Nat) → (mgr : List PV) → List (List PV)
  | 0, _, _ => []
  | fuel + 1, k, [can, P, iters, addr] =>
    let k' := k + 1
    if PV.truthy (PV.and can (BBGen._ArrayMemPagesManager_should_release_curr_page expf can P iters addr (PV.int k'))) then
      match BBGen._ArrayMemPagesManager_release_curr_page_and_update_addr expf can P iters addr with
      | [_, a, l, can', P', iters', addr'] => [a, l, PV.int k'] :: codeLoop expf fuel k' [can', P', iters', addr']
      | _ => []
    else codeLoop expf fuel k' [can, P, iters, addr]
  | _ + 1, _, _ => []

def relPV (r : Pages.Release) : List PV := [PV.int r.addr, PV.int r.len, PV.int r.afterRow]

theorem codeLoop_true (expf : Rat → Rat) (p : Pages.Params) (hi : 0 < p.iters) :
    ∀ (fuel k addr : Nat),
      codeLoop expf fuel k [PV.bool true, PV.int p.P, PV.int p.iters, PV.int addr]
        = (Pages.loop p fuel k addr).map relPV := by
  intro fuel
  induction fuel with
  | zero => intro k addr; rfl
  | succ f ih =>
    intro k addr
    unfold codeLoop Pages.loop
    simp only [gen_pages_should expf _ _ _ p.iters (k + 1) hi, pv, gen_pages_release]
    by_cases h : (k + 1) % p.iters == 0
    · simp only [h, if_true, List.map_cons, relPV]
      rw [ih]
    · simp only [h, Bool.false_eq_true, if_false]
      rw [ih]

theorem codeLoop_false (expf : Rat → Rat) (P iters addr : PV) :
    ∀ (fuel k : Nat), codeLoop expf fuel k [PV.bool false, P, iters, addr] = [] := by
  intro fuel
  induction fuel with
  | zero => intro k; rfl
  | succ f ih =>
    intro k
    unfold codeLoop
    simp only [pv, ih]

theorem gen_pages (expf : Rat → Rat) (data off ncols ps itemsize nrows : Nat) (hc : 0 < ncols)
    (hps : 0 < ps) (hP : ps * 512 < 2 ^ 53) (hb : off ≤ data) :
    codeLoop expf nrows 0 (BBGen._ArrayMemPagesManager_from_bb_input expf PV.pynone (PV.int data)
        (PV.bool true) (PV.int 2) (PV.int off) (PV.int ncols) (PV.int ps))
      = (Pages.releases (pagesOf data off ncols itemsize ps nrows)).map relPV := by
  rw [gen_pages_init expf data off ncols ps hc hP hb itemsize nrows, Pages.releases]
  split_ifs with hr
  · exact codeLoop_true expf _ (Pages.iters_pos _ hr (Nat.mul_pos hps (by norm_num))) nrows 0 _
  · exact codeLoop_false expf _ _ _ nrows 0

end BB
