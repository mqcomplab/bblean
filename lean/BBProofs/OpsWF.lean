/-
Tree well-formedness (`WFT`, BBProofs/WF.lean) through the operations: it is carried by single
insertions of exact units (`carried_wfn`), hence kept, together with exactness of the clusters,
by every history consistent with a labelling (`run_wfn`, an instance of `Inv.run_implicit`).
-/
import BBProofs.WF
import BBProofs.Ops

namespace BB

/-- well-formed state whose tree (if any) has a non-empty root: `WFT` admits the empty leaf the first insertion
starts from, C08's lower bound on the entries of a node does not -/
def TreeSt.WFN (D : Nat → Row) : TreeSt → Prop
  | .full h _ root _ _ => WFT D h root 0 ∧ 1 ≤ nEnts h root
  | _ => True

theorem TreeSt.WFN.wf {D : Nat → Row} {st : TreeSt} (h : st.WFN D) : st.WF D := by
  cases st with
  | uninit => trivial
  | leavesOnly F ls => trivial
  | full hh F root chain next => exact h.1

variable (P : Policy)

theorem insertUnit_wfn (hP : P.Valid) {D : Nat → Row} {bf : Nat} (hbf : 2 ≤ bf) {F : Nat} {st st' : TreeSt} {s : Clu}
    (hw : st.WFN D) (hs : ExactN D s) (hst : insertUnit P bf F st s = some st') : st'.WFN D := by
  obtain ⟨h1, h2⟩ := insertUnit_wf_ne P hP hbf hw.wf hs hst
  cases st' with
  | uninit => trivial
  | leavesOnly F' ls => trivial
  | full hh F' root chain next => exact ⟨h1, h2⟩

theorem fitUnits_wf (hP : P.Valid) (D : Nat → Row) (bf : Nat) (hbf : 2 ≤ bf) (F : Nat) :
    ∀ (units : List Clu) (st : TreeSt) (k : Nat), st.WF D → (∀ u ∈ units, Exact D u ∧ 1 ≤ u.n) →
      (fitUnits P bf F st k units).1.WF D
  | units, st, k, hw, hu => by
    rw [fitUnits_fst]
    exact insertAll_keeps P bf F (fun _ _ _ hw hu h => (insertUnit_wf_ne P hP hbf hw hu h).1)
      st units hw hu

theorem fitRows_wf (hP : P.Valid) (D : Nat → Row) (bf : Nat) (hbf : 2 ≤ bf) (F : Nat) :
    ∀ (rows : List (Nat × Row)) (st : TreeSt) (k : Nat), st.WF D →
      (∀ p ∈ rows, rowOk F p.2 = true → D p.1 = p.2) → (fitRows P bf F st k rows).1.WF D
  | rows, st, k, hw, hd => by
    rw [fitRows_fst]
    refine insertAll_keeps P bf F (U := fun u => Exact D u ∧ 1 ≤ u.n)
      (fun _ _ _ hw hu h => (insertUnit_wf_ne P hP hbf hw hu h).1) st _ hw fun u hu => ?_
    obtain ⟨p, hp, rfl⟩ := List.mem_map.mp hu
    exact ⟨exact_ofRow D (hd p ((List.takeWhile_prefix _).subset hp)
      (List.mem_takeWhile_imp (p := fun q : Nat × Row => rowOk F q.2) hp)), le_refl 1⟩

variable (pol : Cfg → Policy)

theorem exactN_asUnit (D : Nat → Row) (c : Clu) (h : ExactN D c) : ExactN D c.asUnit :=
  ⟨exact_asUnit h.1, h.2⟩

theorem exactN_merge (D : Nat → Row) (c s : Clu) (hc : ExactN D c) (hs : ExactN D s) : ExactN D (c.merge s) :=
  ⟨exact_merge hc.1 hs.1, Nat.le_trans hc.2 (Nat.le_add_right c.n s.n)⟩

theorem mergeClosed_exactN (D : Nat → Row) (cfg : Cfg) : MergeClosed pol (ExactN D) cfg :=
  fun c s hc hs _ => exactN_merge D c s hc hs

/-- side conditions of one operation for a labelling `D` (C02's `OpData` is the same definition) -/
def OpD (F : Nat) (D : Nat → Row) (e : Est) : Op → Prop
  | .fit rows labels => labels = none ∧ (∀ r0, rows.head? = some r0 → r0.length = F) ∧
      (e.st.isLeavesOnly = false → ∀ i (hi : i < rows.length), rows[i].length = F → D (e.numFitted + i) = rows[i])
  | .refine _ data im _ => (∀ r ∈ data, r.length = F) ∧ ∀ id r, im ≤ id → data[id - im]? = some r → r = D id
  | .setMerge _ _ _ b => ∀ b', b = some b' → 2 ≤ b'
  | .setBf b => 2 ≤ b
  | .reset => False
  | _ => True

/-- the history is consistent with the labelling `D` (reset-free) -/
def RunD (F : Nat) (D : Nat → Row) : Est → List Op → Prop
  | _, [] => True
  | e, op :: ops => OpD F D e op ∧ RunD F D (stepWith pol e op).1 ops

variable {pol} {F : Nat}

theorem carried_wfn (hpol : ∀ cfg, (pol cfg).Valid) (D : Nat → Row) : Carried pol (ExactN D) (TreeSt.WFN D) :=
  ⟨hpol, exactN_asUnit D, trivial, fun cfg _ hbf _ _ _ hw hu h => insertUnit_wfn (pol cfg) (hpol cfg) hbf hw hu h,
    fun _ _ => trivial⟩

theorem opOK_of_opD {D : Nat → Row} {e : Est} {op : Op} (h : OpD F D e op) : OpOK pol F (ExactN D) e op := by
  refine ⟨?_, ?_, fun _ _ => mergeClosed_exactN pol D _⟩
  · cases op with
    | fit rows labels => exact h.2.1
    | refine n data im srt => exact h.1
    | setMerge c t th b => exact h
    | setBf b => exact h
    | reset => exact h.elim
    | _ => trivial
  · intro u hu
    cases op with
    | fit rows labels =>
      obtain ⟨hlo, p, hp, hl, rfl⟩ := hu
      obtain ⟨rfl, _, hd⟩ := h
      obtain ⟨i, hi, rfl⟩ := mem_zip_range' hp
      exact ⟨exact_ofRow D (hd hlo i hi hl), le_refl 1⟩
    | refine n data im srt =>
      obtain ⟨id, r, hle, hr, rfl⟩ := hu
      obtain rfl := h.2 id r hle hr
      exact ⟨exact_ofBuffer_singleton D id, le_refl 1⟩
    | _ => exact hu.elim

theorem opD_implicit {D : Nat → Row} {e : Est} {op : Op} (h : OpD F D e op) : op.Implicit := by
  rintro rows labels rfl; exact h.1

theorem along_opD {D : Nat → Row} {ops : List Op} {e : Est} (h : Along pol (OpD F D) e ops) :
    Along pol (fun e op => OpOK pol F (ExactN D) e op ∧ op.Implicit) e ops :=
  h.mono fun _ _ h => ⟨opOK_of_opD h, opD_implicit h⟩

theorem runD_along {D : Nat → Row} : ∀ {ops : List Op} {e : Est}, RunD pol F D e ops → Along pol (OpD F D) e ops
  | [], _, _ => trivial
  | _ :: _, _, h => ⟨h.1, runD_along h.2⟩

theorem run_wfn (hpol : ∀ cfg, (pol cfg).Valid) {D : Nat → Row} {ops : List Op} {e : Est}
    (hinv : EInv F (ExactN D) e) (hw : e.st.WFN D) (h : RunD pol F D e ops) :
    EInv F (ExactN D) (runWith pol e ops) ∧ (runWith pol e ops).st.WFN D :=
  inv_range_iff.mp (Inv.run_implicit (carried_wfn hpol D) (inv_range_iff.mpr ⟨hinv, hw⟩)
    (along_opD (runD_along h)))

end BB
