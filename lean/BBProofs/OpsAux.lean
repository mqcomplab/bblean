/-
Lists of clusters outside the tree: the extraction pipeline of `recluster_inplace` / `refine_inplace` (stable
sort, shuffle, grouping by width, exploding the largest clusters into singletons: `refineGroups_spec`), the
labels and widths of units, the labelling of the rows of a `fit` call, and a successful `set_merge` read
backwards (`setMerge_ok`).
-/
import BBProofs.TreeBasic
import BBProofs.Bits

namespace BB

theorem sortClus_perm (cs : List Clu) : (sortClus cs).Perm cs := List.mergeSort_perm _ _

theorem map_getD_range {α : Type} (xs : List α) (d : α) :
    (List.range xs.length).map (fun i => xs.getD i d) = xs := by
  apply List.ext_getElem
  · simp
  · intro i h1 h2
    simp only [List.getElem_map, List.getElem_range]
    simp only [List.length_map, List.length_range] at h1
    simp [List.getD_eq_getElem?_getD, List.getElem?_eq_getElem h1]

theorem applyPerm_perm {α : Type} [Inhabited α] (xs : List α) (p : List Nat) : (applyPerm xs p).Perm xs := by
  unfold applyPerm
  split
  · rename_i h
    have hp : p.Perm (List.range xs.length) := List.isPerm_iff.mp h
    have := hp.map (fun i => xs.getD i default)
    rw [map_getD_range] at this
    exact this
  · exact List.Perm.refl _

/-- the step shared by `_prepare_bf_to_buffer_dicts` and the `"uint8"` group of `_bf_to_np_refine`:
append `us` to the group with key `w`, created last when absent -/
def addTo (w : W) (us : List Clu) (acc : List (W × List Clu)) : List (W × List Clu) :=
  if acc.any (fun g => g.1 == w) then acc.map (fun g => if g.1 == w then (g.1, g.2 ++ us) else g)
  else acc ++ [(w, us)]

/-- one step of `_prepare_bf_to_buffer_dicts` -/
def groupStep (acc : List (W × List Clu)) (c : Clu) : List (W × List Clu) := addTo c.w [c] acc

theorem groupByW_eq (cs : List Clu) : groupByW cs = cs.foldl groupStep [] := rfl

/-- `gs` groups the clusters `M`: keys distinct, no group empty, the groups together hold `M` -/
abbrev Groups (gs : List (W × List Clu)) (M : Multiset Clu) : Prop :=
  (gs.map (·.1)).Nodup ∧ (∀ g ∈ gs, g.2 ≠ []) ∧ ((gs.flatMap (·.2) : List Clu) : Multiset Clu) = M

/-- group keys are distinct, so the units are appended to exactly one group -/
theorem addTo_spec (w : W) (us : List Clu) (hus : us ≠ []) {acc : List (W × List Clu)} {M : Multiset Clu}
    (h : Groups acc M) : Groups (addTo w us acc) (M + (us : Multiset Clu)) := by
  obtain ⟨hnd, hne, rfl⟩ := h
  unfold addTo
  split
  · rename_i hany
    refine ⟨?_, ?_, ?_⟩
    · have : (acc.map (fun g => if g.1 == w then (g.1, g.2 ++ us) else g)).map (·.1) = acc.map (·.1) := by
        rw [List.map_map]; apply List.map_congr_left; intro g _; simp only [Function.comp]; split <;> rfl
      rw [this]; exact hnd
    · intro g hg
      simp only [List.mem_map] at hg
      obtain ⟨g0, hg0, rfl⟩ := hg
      split
      · simp [hne g0 hg0]
      · exact hne g0 hg0
    · clear hne
      induction acc with
      | nil => simp at hany
      | cons a acc ih =>
        simp only [List.map_cons, List.nodup_cons, List.mem_map, not_exists, not_and] at hnd
        simp only [List.map_cons, List.flatMap_cons, ← Multiset.coe_add]
        by_cases ha : (a.1 == w) = true
        · -- appended here; the tail has no matching key
          have htail : acc.map (fun g => if g.1 == w then (g.1, g.2 ++ us) else g) = acc := by
            conv_rhs => rw [← List.map_id acc]
            apply List.map_congr_left
            intro g hg
            have : g.1 ≠ a.1 := fun he => hnd.1 g hg he
            have hw : a.1 = w := by simpa using ha
            have : (g.1 == w) = false := by rw [← hw]; simpa using this
            simp [this]
          rw [htail]
          simp only [ha, ↓reduceIte]
          rw [← Multiset.coe_add a.2 us]
          abel
        · have ha' : (a.1 == w) = false := by simpa using ha
          have hany' : acc.any (fun g => g.1 == w) = true := by
            simpa [List.any_cons, ha'] using hany
          simp only [ha', Bool.false_eq_true, ↓reduceIte]
          rw [ih hnd.2 hany', add_assoc]
  · rename_i hany
    refine ⟨?_, ?_, ?_⟩
    · rw [List.map_append, List.nodup_append]
      refine ⟨hnd, by simp, ?_⟩
      intro a ha b hb
      simp only [List.map_cons, List.map_nil, List.mem_singleton] at hb
      subst hb
      intro he
      apply hany
      simp only [List.any_eq_true]
      simp only [List.mem_map] at ha
      obtain ⟨g, hg, rfl⟩ := ha
      exact ⟨g, hg, by simp [he]⟩
    · intro g hg
      rcases List.mem_append.mp hg with hg | hg
      · exact hne g hg
      · simp only [List.mem_singleton] at hg; subst hg; exact hus
    · simp only [List.flatMap_append, List.flatMap_cons, List.flatMap_nil, List.append_nil, ← Multiset.coe_add]

theorem groupByW_spec (cs : List Clu) : Groups (groupByW cs) (cs : Multiset Clu) := by
  rw [groupByW_eq]
  have key : ∀ (cs : List Clu) {acc : List (W × List Clu)} {M : Multiset Clu}, Groups acc M →
      Groups (cs.foldl groupStep acc) (M + (cs : Multiset Clu)) := by
    intro cs
    induction cs with
    | nil => intro acc M h; simpa using h
    | cons c cs ih =>
      intro acc M h
      have := ih (addTo_spec c.w [c] (by simp) h)
      rwa [add_assoc, Multiset.coe_add, List.singleton_append] at this
  simpa using key cs (acc := []) (M := 0) ⟨by simp, by simp, by simp⟩

/-! ### labels and widths of units -/

theorem merge_ls_length {c s : Clu} {F : Nat} (hc : c.ls.length = F) (hs : s.ls.length = F) :
    (c.merge s).ls.length = F := by
  simp [Clu.merge, Clu.mergedSummary, addLs_length, hc, hs]

theorem card_idsOf (M : Multiset Clu) : Multiset.card (idsOf M) = (M.map (fun c => c.ids.length)).sum := by
  induction M using Multiset.induction_on with
  | empty => simp
  | cons a M ih =>
    rw [← Multiset.singleton_add, idsOf_add, Multiset.card_add, ih]
    simp

theorem idsOf_map_asUnit (l : List Clu) :
    idsOf ((l.map Clu.asUnit : List Clu) : Multiset Clu) = idsOf (l : Multiset Clu) := by
  rw [idsOf_eq_flatten, idsOf_eq_flatten, List.map_map]; rfl

theorem idsOf_ofRow (l : List (Nat × Row)) :
    idsOf ((l.map (fun p => Clu.ofRow p.2 p.1) : List Clu) : Multiset Clu) = ((l.map (·.1) : List Nat) : Multiset Nat) := by
  rw [idsOf_eq_flatten, List.map_map]
  congr 1
  induction l with
  | nil => rfl
  | cons a l ih => simpa [Clu.ofRow] using ih

theorem prefix_zip_range' {n : Nat} {rows : List Row} {p : List (Nat × Row)}
    (hp : p <+: (List.range' n rows.length).zip rows) : p.map (·.1) = List.range' n p.length := by
  have hlen : p.length ≤ rows.length := by
    have := hp.length_le
    simpa using this
  rw [List.prefix_iff_eq_take] at hp
  rw [hp]
  simp only [List.map_take, List.length_take, List.length_zip, List.length_range', Nat.min_self]
  rw [List.map_fst_zip (by simp), List.take_range'_of_length_ge (by omega)]
  congr 1
  omega

theorem prefix_zip_labels : ∀ {p : List (Nat × Row)} {ls : List Nat} {rows : List Row},
    p <+: ls.zip rows → p.map (·.1) = ls.take p.length
  | [], _, _, _ => by simp
  | a :: p, [], _, h => by simp at h
  | a :: p, _ :: _, [], h => by simp at h
  | a :: p, l :: ls, r :: rows, h => by
    rw [List.zip_cons_cons, List.cons_prefix_cons] at h
    obtain ⟨rfl, h⟩ := h
    simp [prefix_zip_labels h]

theorem mem_zip_range' {n : Nat} {rows : List Row} {p : Nat × Row}
    (hp : p ∈ (List.range' n rows.length).zip rows) : ∃ i, ∃ hi : i < rows.length, p = (n + i, rows[i]) := by
  obtain ⟨i, hi, rfl⟩ := List.mem_iff_getElem.mp hp
  simp only [List.length_zip, List.length_range', Nat.min_self] at hi
  exact ⟨i, hi, by simp [List.getElem_zip, List.getElem_range']⟩

/-! ### exploding clusters into singletons -/

/-- the singleton unit read from the data for label `id` -/
def single (r : Row) (id : Nat) : Clu := Clu.ofBuffer .u8 (rowToNat r) 1 [id]

theorem single_ls_length (r : Row) (id : Nat) : (single r id).ls.length = r.length := by
  simp [single, Clu.ofBuffer, rowToNat]

theorem ofRow_ls_length (r : Row) (i : Nat) : (Clu.ofRow r i).ls.length = r.length := by
  simp [Clu.ofRow, rowToNat]

theorem explode_spec (data : List Row) (im : Nat) : ∀ (ids : List Nat) (us : List Clu),
    explode data im ids = some us →
    idsOf (us : Multiset Clu) = (ids : Multiset Nat) ∧
    ∀ u ∈ us, ∃ id r, id ∈ ids ∧ im ≤ id ∧ data[id - im]? = some r ∧ u = single r id
  | [], us, h => by
    simp only [explode, List.mapM_nil, Option.pure_def, Option.some.injEq] at h
    subst h; simp
  | id :: ids, us, h => by
    simp only [explode, List.mapM_cons, Option.pure_def, Option.bind_eq_bind, Option.bind_eq_some_iff] at h
    obtain ⟨u, hu, us', hus', hsome⟩ := h
    have := Option.some.inj hsome
    subst this
    obtain ⟨h1, h2⟩ := explode_spec data im ids us' hus'
    have hu' : im ≤ id ∧ ∃ r, data[id - im]? = some r ∧ u = single r id := by
      split at hu
      · simp at hu
      · rename_i hlt
        simp only [Option.map_eq_some_iff] at hu
        obtain ⟨r, hr, rfl⟩ := hu
        exact ⟨by omega, r, hr, rfl⟩
    obtain ⟨hle, r, hr, rfl⟩ := hu'
    refine ⟨?_, ?_⟩
    · rw [← Multiset.cons_coe, ← Multiset.singleton_add, idsOf_add, h1, idsOf_singleton]
      rfl
    · intro x hx
      rcases List.mem_cons.mp hx with hx | hx
      · exact ⟨id, r, by simp, hle, hr, hx⟩
      · obtain ⟨id', r', a, b, c, d⟩ := h2 x hx
        exact ⟨id', r', List.mem_cons_of_mem _ a, b, c, d⟩

theorem explodeAllF_spec (data : List Row) (im : Nat) (f : Clu → List Nat) (hf : ∀ c, (f c).Perm c.ids) :
    ∀ (cs : List Clu) (uss : List (List Clu)),
    cs.mapM (fun c => explode data im (f c)) = some uss →
    idsOf (uss.flatten : Multiset Clu) = idsOf (cs : Multiset Clu) ∧
    ∀ u ∈ uss.flatten, ∃ id r, im ≤ id ∧ data[id - im]? = some r ∧ u = single r id
  | [], uss, h => by
    simp only [List.mapM_nil, Option.pure_def, Option.some.injEq] at h
    subst h; simp
  | c :: cs, uss, h => by
    simp only [List.mapM_cons, Option.pure_def, Option.bind_eq_bind, Option.bind_eq_some_iff] at h
    obtain ⟨us, hus, uss', huss', hsome⟩ := h
    have := Option.some.inj hsome
    subst this
    obtain ⟨h1, h2⟩ := explodeAllF_spec data im f hf cs uss' huss'
    obtain ⟨g1, g2⟩ := explode_spec data im (f c) us hus
    refine ⟨?_, ?_⟩
    · rw [List.flatten_cons, ← Multiset.coe_add, idsOf_add, g1, h1, ← Multiset.cons_coe,
        ← Multiset.singleton_add, idsOf_add, idsOf_singleton, Multiset.coe_eq_coe.mpr (hf c)]
    · intro x hx
      rw [List.flatten_cons] at hx
      rcases List.mem_append.mp hx with hx | hx
      · obtain ⟨id, r, _, b, c', d⟩ := g2 x hx
        exact ⟨id, r, b, c', d⟩
      · exact h2 x hx

section Refine
variable {bfs : List Clu} {k : Nat} {data : List Row} {im : Nat} {srt : Bool} {groups : List (W × List Clu)}

theorem refineGroups_spec (h : refineGroups bfs k data im srt = .ok groups) :
    (∀ g ∈ groups, g.2 ≠ []) ∧ ∃ singles : List Clu,
      ((groups.flatMap (·.2) : List Clu) : Multiset Clu) = ((bfs.drop k : List Clu) : Multiset Clu) + (singles : Multiset Clu) ∧
      idsOf (singles : Multiset Clu) = idsOf ((bfs.take k : List Clu) : Multiset Clu) ∧
      ∀ u ∈ singles, ∃ id r, im ≤ id ∧ data[id - im]? = some r ∧ u = single r id := by
  have hgr := groupByW_spec (bfs.drop k)
  have ⟨hnd, hne, hflat⟩ := hgr
  unfold refineGroups at h
  simp only at h
  split at h
  · rename_i hk
    have := Except.ok.inj h
    subst this
    refine ⟨hne, [], by simpa using hflat, by simp [hk], by simp⟩
  · split at h
    · simp at h
    · rename_i uss huss
      obtain ⟨h1, h2⟩ := explodeAllF_spec data im (fun c => if srt then c.ids.mergeSort (· ≤ ·) else c.ids)
        (fun c => by split; exact List.mergeSort_perm _ _; exact List.Perm.refl _) (bfs.take k) uss huss
      have := Except.ok.inj h
      subst this
      split
      · rename_i hemp
        have : uss.flatten = [] := by simpa using hemp
        refine ⟨hne, [], by simpa using hflat, ?_, by simp⟩
        rw [← h1, this]
      · rename_i hemp
        have hne' : uss.flatten ≠ [] := by simpa using hemp
        -- `addToU8 groups us` is `addTo .u8 us groups`
        obtain ⟨_, a1, a2⟩ := addTo_spec .u8 uss.flatten hne' hgr
        exact ⟨a1, uss.flatten, a2, h1, h2⟩

theorem refineGroups_ids (h : refineGroups bfs k data im srt = .ok groups) :
    idsOf ((groups.flatMap (·.2) : List Clu) : Multiset Clu) = idsOf (bfs : Multiset Clu) := by
  obtain ⟨_, singles, hflat, hids, _⟩ := refineGroups_spec h
  rw [hflat, idsOf_add, hids, ← idsOf_add, add_comm, Multiset.coe_add, List.take_append_drop]

theorem refineGroups_mem (h : refineGroups bfs k data im srt = .ok groups) {g : W × List Clu} (hg : g ∈ groups)
    {u : Clu} (hu : u ∈ g.2) : u ∈ bfs ∨ ∃ id r, im ≤ id ∧ data[id - im]? = some r ∧ u = single r id := by
  obtain ⟨_, singles, hflat, _, hsing⟩ := refineGroups_spec h
  have : u ∈ ((groups.flatMap (·.2) : List Clu) : Multiset Clu) := List.mem_flatMap.mpr ⟨g, hg, hu⟩
  rw [hflat] at this
  exact (Multiset.mem_add.mp this).imp List.mem_of_mem_drop (hsing u)

end Refine

/-! ### a successful `set_merge` -/

theorem setMerge_ok {e e' : Est} {crit : Option CritArg} {tol thr : Option Rat} {bf : Option Nat}
    (h : setMerge e crit tol thr bf = (e', none)) :
    ∃ m, selectMerge (some e.cfg.merge) crit tol = .ok m ∧
      e' = { e with cfg := { thr := thr.getD e.cfg.thr, bf := bf.getD e.cfg.bf, merge := m } } := by
  unfold setMerge at h
  split at h
  · cases h
  · cases h; exact ⟨_, ‹_›, rfl⟩

end BB
