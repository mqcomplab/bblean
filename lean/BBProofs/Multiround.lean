/-
The rounds of the multi-round workflow.  After round `r` the directory holds exactly the pairs that round
wrote (`DirInv`); `prevPairs` finds each buffer file with its own index file (`pairing`), and reading them
back gives the saved sub-clusters.  What a round hands to the next (`Handed`) comes from any family of tasks
labelled by position (`labelled_round_inv`), so the final sub-clusters carry the labels `0 .. N-1` and every
predicate the tasks carry (`multiround_result`).  Built on FS.lean, RunLog.lean and Tasks.lean.
-/
import BBProofs.RunLog
import BBProofs.Tasks

namespace BB.MR
open BB

variable (pol : BB.Cfg → Policy)

/-- one group saved by a task: label of the task, dtype of the group, its sub-clusters -/
structure Entry where
  L : String
  w : W
  cs : List Clu

def Entry.key (e : Entry) : String × W := (e.L, e.w)
def Entry.bn (r : Nat) (e : Entry) : String := bufName r e.L e.w
def Entry.ix (r : Nat) (e : Entry) : String := idxName r e.L e.w
def Entry.pair (r : Nat) (e : Entry) : String × String := (e.bn r, e.ix r)
def Entry.bufs (e : Entry) : Content := .bufs e.w (e.cs.map (fun c => (c.ls, c.n)))
def Entry.idxs (e : Entry) : Content := .idxs (e.cs.map (·.ids))
def Entry.writes (r : Nat) (e : Entry) : Writes := [(e.bn r, e.bufs), (e.ix r, e.idxs)]

def entriesOf (L : String) (gs : List (W × List Clu)) : List Entry := gs.map (fun g => ⟨L, g.1, g.2⟩)

theorem saveGroups_eq (r : Nat) (L : String) (gs : List (W × List Clu)) :
    saveGroups r L gs = (entriesOf L gs).flatMap (Entry.writes r) := by
  simp only [saveGroups, entriesOf, List.flatMap_map]
  rfl

/-- `e.bn r` and `e.ix r` are `roundName .buf r e.L e.w` and `roundName .idx r e.L e.w` by unfolding -/
theorem key_of_roundName {k k' : Kind} {r : Nat} {e e' : Entry}
    (h : roundName k r e.L e.w = roundName k' r e'.L e'.w) : k = k' ∧ e.key = e'.key := by
  obtain ⟨hk, _, h1, h2⟩ := roundName_inj h
  exact ⟨hk, by simp [Entry.key, h1, h2]⟩

theorem writes_names (r : Nat) (es : List Entry) : (es.flatMap (Entry.writes r)).map (·.1) =
    es.flatMap fun e => [Kind.buf, Kind.idx].map fun k => roundName k r e.L e.w := by
  rw [List.map_flatMap]; rfl

theorem writes_names_nodup (r : Nat) (es : List Entry) (hk : (es.map Entry.key).Nodup) :
    ((es.flatMap (Entry.writes r)).map (·.1)).Nodup := by
  rw [writes_names, List.nodup_flatMap]
  refine ⟨fun e _ => ?_, (List.pairwise_map.mp hk).imp fun {a b} hab n ha hb => ?_⟩
  · simp only [List.map_cons, List.map_nil, List.nodup_cons, List.mem_singleton, List.not_mem_nil, not_false_eq_true,
      List.nodup_nil, and_true]
    exact fun h => nomatch (roundName_inj h).1
  · obtain ⟨k, _, rfl⟩ := List.mem_map.mp ha
    obtain ⟨k', _, h⟩ := List.mem_map.mp hb
    exact hab (key_of_roundName h.symm).2

/-- no file of `fs` matches the patterns of round `r` or later -/
def NoRoundFrom (r : Nat) (fs : FS) : Prop :=
  ∀ n, fs.read n ≠ none → ∀ r', r ≤ r' → matchB r' n = false ∧ matchI r' n = false

/-- the directory after round `r`: exactly the entries `es` are there as files of round `r` -/
structure DirInv (r : Nat) (fs : FS) (es : List Entry) : Prop where
  wf : fs.WF
  keys : (es.map Entry.key).Nodup
  lens : ∀ e ∈ es, ∀ e' ∈ es, e.L.length = e'.L.length
  rdB : ∀ e ∈ es, fs.read (e.bn r) = some e.bufs
  rdI : ∀ e ∈ es, fs.read (e.ix r) = some e.idxs
  onlyB : ∀ n, fs.read n ≠ none → matchB r n = true → ∃ e ∈ es, n = e.bn r
  onlyI : ∀ n, fs.read n ≠ none → matchI r n = true → ∃ e ∈ es, n = e.ix r
  fut : NoRoundFrom (r + 1) fs

theorem dirInv_writeAll (r : Nat) (fs : FS) (hwf : fs.WF) (hno : NoRoundFrom r fs) (es : List Entry)
    (hk : (es.map Entry.key).Nodup) (hl : ∀ e ∈ es, ∀ e' ∈ es, e.L.length = e'.L.length) :
    DirInv r (writeAll fs (es.flatMap (Entry.writes r))) es := by
  have hnd := writes_names_nodup r es hk
  -- a name that the listing of a round `r' ≥ r` finds was written for an entry, in round `r`
  have only : ∀ n, (writeAll fs (es.flatMap (Entry.writes r))).read n ≠ none → ∀ r', r ≤ r' → ∀ k,
      matchK k r' n = true → r' = r ∧ ∃ e ∈ es, n = roundName k r e.L e.w := by
    intro n hn r' hr k hm
    rcases read_writeAll_cases fs (es.flatMap (Entry.writes r)) n with h | ⟨w, hw, rfl, _⟩
    · obtain ⟨h1, h2⟩ := hno n (h ▸ hn) r' hr
      cases k
      exacts [absurd (h1 ▸ hm) Bool.false_ne_true, absurd (h2 ▸ hm) Bool.false_ne_true]
    · have hw' := List.mem_map_of_mem (f := (·.1)) hw
      rw [writes_names] at hw'
      obtain ⟨e, he, hw'⟩ := List.mem_flatMap.mp hw'
      obtain ⟨k', _, hk'⟩ := List.mem_map.mp hw'
      rw [← hk'] at hm ⊢
      obtain ⟨rfl, rfl⟩ := matchK_roundName.mp hm
      exact ⟨rfl, e, he, rfl⟩
  refine ⟨WF_writeAll hwf _, hk, hl, ?_, ?_, fun n hn hm => (only n hn r le_rfl .buf hm).2,
    fun n hn hm => (only n hn r le_rfl .idx hm).2, fun n hn r' hr' => ?_⟩
  · intro e he
    exact read_writeAll_of_mem fs hnd (w := (e.bn r, e.bufs)) (List.mem_flatMap.mpr ⟨e, he, by simp [Entry.writes]⟩)
  · intro e he
    exact read_writeAll_of_mem fs hnd (w := (e.ix r, e.idxs)) (List.mem_flatMap.mpr ⟨e, he, by simp [Entry.writes]⟩)
  · exact ⟨Bool.eq_false_iff.mpr fun hm => by have := (only n hn r' (by omega) .buf hm).1; omega,
      Bool.eq_false_iff.mpr fun hm => by have := (only n hn r' (by omega) .idx hm).1; omega⟩

/-- two keys that compare the elements of a list alike sort it by one permutation -/
theorem mergeSort_alike {α β : Type} [LE β] [DecidableLE β] (f g : α → β) (l : List α)
    (h : ∀ a ∈ l, ∀ b ∈ l, (f a ≤ f b ↔ g a ≤ g b)) :
    ∃ qs : List α, qs.Perm l ∧
      (l.map f).mergeSort (· ≤ ·) = qs.map f ∧ (l.map g).mergeSort (· ≤ ·) = qs.map g :=
  ⟨l.mergeSort (fun a b => decide (f a ≤ f b)), List.mergeSort_perm _ _,
    (List.map_mergeSort (f := f) fun _ _ _ _ => rfl).symm,
    (List.map_mergeSort (f := g) fun a ha b hb => decide_eq_decide.mpr (h a ha b hb)).symm⟩

/-- so `zip` pairs each buffer file with its own index file -/
theorem pairing (r : Nat) (es : List Entry) (hl : ∀ e ∈ es, ∀ e' ∈ es, e.L.length = e'.L.length) :
    ∃ qs : List Entry, qs.Perm es ∧
      (es.map (Entry.bn r)).mergeSort (· ≤ ·) = qs.map (Entry.bn r) ∧
      (es.map (Entry.ix r)).mergeSort (· ≤ ·) = qs.map (Entry.ix r) :=
  mergeSort_alike _ _ es fun a ha b hb => bufName_le_iff_idxName_le r a.L b.L a.w b.w (hl a ha b hb)

/-- `DirInv.lens` is needed here: labels of different lengths would sort buffer names and index names
differently, and `zip` would pair files of different entries -/
theorem prevPairs_of_dirInv {r : Nat} {fs : FS} {es : List Entry} (h : DirInv r fs es) :
    ∃ qs : List Entry, qs.Perm es ∧ prevPairs fs (r + 1) = qs.map (Entry.pair r) := by
  obtain ⟨qs, hp, hB, hI⟩ := pairing r es h.lens
  refine ⟨qs, hp, ?_⟩
  have g : ∀ (m : String → Bool) (nm : Entry → String), (∀ n, m n = true → isRoundFile n = true) →
      (∀ a b, nm a = nm b → a.key = b.key) → (∀ e ∈ es, fs.read (nm e) ≠ none ∧ m (nm e) = true) →
      (∀ n, fs.read n ≠ none → m n = true → ∃ e ∈ es, n = nm e) → (fs.names.filter m).Perm (es.map nm) := by
    intro m nm hr hinj hrd honly
    rw [List.perm_ext_iff_of_nodup (listing_nodup h.wf hr) ((List.Nodup.of_map _ h.keys).map_on
      (fun a ha b hb hab => List.inj_on_of_nodup_map h.keys ha hb (hinj a b hab)))]
    intro n
    rw [mem_listing, List.mem_map]
    exact ⟨fun ⟨h1, h2⟩ => let ⟨e, he, hn⟩ := honly n h1 h2; ⟨e, he, hn.symm⟩,
      fun ⟨e, he, hn⟩ => hn ▸ hrd e he⟩
  have gB := g (matchB r) (Entry.bn r) (fun _ => isRoundFile_of_matchK (k := .buf))
    (fun _ _ hab => (key_of_roundName (k := .buf) (k' := .buf) hab).2)
    (fun e he => ⟨by rw [h.rdB e he]; simp, matchK_roundName (k := .buf) (k' := .buf).mpr ⟨rfl, rfl⟩⟩) h.onlyB
  have gI := g (matchI r) (Entry.ix r) (fun _ => isRoundFile_of_matchK (k := .idx))
    (fun _ _ hab => (key_of_roundName (k := .idx) (k' := .idx) hab).2)
    (fun e he => ⟨by rw [h.rdI e he]; simp, matchK_roundName (k := .idx) (k' := .idx).mpr ⟨rfl, rfl⟩⟩) h.onlyI
  rw [prevPairs_eq, Nat.add_sub_cancel, mergeSort_names_perm gB, mergeSort_names_perm gI, hB, hI, List.zip_map']
  rfl

theorem unitsOf_saved (w : W) : ∀ (cs : List Clu),
    unitsOf (.bufs w (cs.map (fun c => (c.ls, c.n)))) (.idxs (cs.map (·.ids))) =
      if ∀ c ∈ cs, c.ids.length = c.n then .ok (cs.map (fun c => Clu.ofBuffer w c.ls c.n c.ids)) else .error .value
  | [] => rfl
  | c :: cs => by
    have ih := unitsOf_saved w cs
    simp only [unitsOf] at ih
    simp only [unitsOf, List.map_cons, List.zip_cons_cons, List.mapM_cons, ih, List.forall_mem_cons]
    by_cases h1 : c.ids.length = c.n
    · simp only [h1, ↓reduceIte, true_and]; split <;> rfl
    · simp only [h1, ↓reduceIte, false_and]; rfl

theorem pairUnits_entry {r : Nat} {fs : FS} {es : List Entry} (h : DirInv r fs es)
    (hw : ∀ e ∈ es, ∀ c ∈ e.cs, c.w = e.w) (e : Entry) (he : e ∈ es) :
    pairUnits fs (e.pair r) =
      if ∀ c ∈ e.cs, c.ids.length = c.n then .ok (e.cs.map Clu.asUnit) else .error .value := by
  simp only [pairUnits, Entry.pair, h.rdB e he, h.rdI e he, Entry.bufs, Entry.idxs, unitsOf_saved]
  congr 2
  exact List.map_congr_left fun c hc => by rw [Clu.asUnit, hw e he c hc]

/-- what the saved entries say: dtype keys are right, `Q` holds, the labels are `0 .. N-1` -/
structure EsOK (Q : Clu → Prop) (N : Nat) (es : List Entry) : Prop where
  keyed : ∀ e ∈ es, ∀ c ∈ e.cs, c.w = e.w
  q : ∀ e ∈ es, ∀ c ∈ e.cs, Q c
  ids : idsOf ((es.flatMap (·.cs) : List Clu) : Multiset Clu) = ((List.range N : List Nat) : Multiset Nat)

/-- what a round hands to the next one; `ne` is there for the success of the next round only (`fitBuffers`
refuses an empty group) -/
structure Handed (Q : Clu → Prop) (N r : Nat) (fs : FS) (es : List Entry) : Prop where
  dir : DirInv r fs es
  esok : EsOK Q N es
  ne : ∀ e ∈ es, e.cs ≠ []

theorem mem_prevPairs {r : Nat} {fs : FS} {es : List Entry} (h : DirInv r fs es) {p : String × String} :
    p ∈ prevPairs fs (r + 1) ↔ ∃ e ∈ es, p = e.pair r := by
  obtain ⟨qs, hp, hq⟩ := prevPairs_of_dirInv h
  rw [hq, List.mem_map]
  exact ⟨fun ⟨e, he, e1⟩ => ⟨e, hp.mem_iff.mp he, e1.symm⟩, fun ⟨e, he, e1⟩ => ⟨e, hp.mem_iff.mpr he, e1.symm⟩⟩

theorem readback_q {D : Nat → Row} {Q : Clu → Prop} (hQ : QOK D Q) {N r : Nat} {fs : FS} {es : List Entry}
    (h : DirInv r fs es) (hes : EsOK Q N es) {p : String × String} (hp : p ∈ prevPairs fs (r + 1)) :
    ∀ u ∈ unitsRead fs p, Q u := by
  obtain ⟨e, he, rfl⟩ := (mem_prevPairs h).mp hp
  rw [unitsRead, pairUnits_entry h hes.keyed e he]
  split
  · intro u hu
    obtain ⟨c, hc, rfl⟩ := List.mem_map.mp hu
    exact hQ.unit c (hes.q e he c hc)
  · intro u hu; cases hu

theorem readback_ids {Q : Clu → Prop} {N r : Nat} {fs : FS} {es : List Entry} (h : DirInv r fs es) (hes : EsOK Q N es)
    (hall : ∀ p ∈ prevPairs fs (r + 1), ∃ us, pairUnits fs p = .ok us) :
    idsOf (((prevPairs fs (r + 1)).flatMap (unitsRead fs) : List Clu) : Multiset Clu)
      = ((List.range N : List Nat) : Multiset Nat) := by
  obtain ⟨qs, hp, hq⟩ := prevPairs_of_dirInv h
  rw [← hes.ids, idsOf_flatMap, idsOf_flatMap, hq, List.map_map, ← (hp.map _).sum_eq]
  refine congrArg _ (List.map_congr_left fun e he => ?_)
  obtain ⟨us, hus⟩ := hall (e.pair r) (by rw [hq]; exact List.mem_map_of_mem he)
  have hpe := pairUnits_entry h hes.keyed e (hp.mem_iff.mp he)
  rw [hpe] at hus
  split at hus
  · rename_i hc
    simp only [Function.comp, unitsRead, hpe]
    rw [if_pos hc]
    exact idsOf_map_asUnit _
  · cases hus

section
variable {α : Type} (z : Nat) (G : α × Nat → Except Err (List (W × List Clu)))

/-- the groups a task computed (none if it failed) -/
def gsOf (x : α × Nat) : List (W × List Clu) := (G x).toOption.getD []

theorem gsOf_of_ok {G : α × Nat → Except Err (List (W × List Clu))} {x : α × Nat} {gs : List (W × List Clu)}
    (h : G x = .ok gs) : gsOf G x = gs := by
  simp [gsOf, h, Except.toOption]

/-- the entries saved by the tasks `xs`, labelled by position -/
def esOf (xs : List (α × Nat)) : List Entry := xs.flatMap (fun x => entriesOf (zfill z x.2) (gsOf G x))

theorem esOf_cs (xs : List (α × Nat)) :
    idsOf (((esOf z G xs).flatMap (·.cs) : List Clu) : Multiset Clu) = (xs.map (fun x => idsOf (groupClus (gsOf G x)))).sum := by
  rw [esOf, List.flatMap_assoc, idsOf_flatMap]
  simp only [entriesOf, List.flatMap_map, groupClus]

variable {z G} in
theorem mem_esOf {xs : List (α × Nat)} {e : Entry} (he : e ∈ esOf z G xs) :
    ∃ x ∈ xs, ∃ g ∈ gsOf G x, e = ⟨zfill z x.2, g.1, g.2⟩ := by
  obtain ⟨x, hx, he⟩ := List.mem_flatMap.mp he
  obtain ⟨g, hg, rfl⟩ := List.mem_map.mp he
  exact ⟨x, hx, g, hg, rfl⟩

theorem esOf_keys (xs : List (α × Nat)) (hx : xs.Pairwise (fun a b => a.2 ≠ b.2))
    (hg : ∀ x ∈ xs, ((gsOf G x).map (·.1)).Nodup) : ((esOf z G xs).map Entry.key).Nodup := by
  induction xs with
  | nil => exact List.nodup_nil
  | cons x xs ih =>
    rw [List.pairwise_cons] at hx
    rw [esOf, List.flatMap_cons, List.map_append, List.nodup_append]
    refine ⟨?_, ih hx.2 (fun y hy => hg y (List.mem_cons_of_mem _ hy)), ?_⟩
    · exact List.Nodup.of_map Prod.snd (by rw [entriesOf, List.map_map, List.map_map]; exact hg x (by simp))
    · intro a ha b hb hab
      obtain ⟨e, he, rfl⟩ := List.mem_map.mp ha
      obtain ⟨e', he', hk⟩ := List.mem_map.mp hb
      obtain ⟨g, _, rfl⟩ := List.mem_map.mp he
      obtain ⟨y, hy, g', _, rfl⟩ := mem_esOf he'
      exact hx.1 y hy (zfill_inj (Prod.mk.inj (hab.trans hk.symm)).1)

theorem labelled_round (r : Nat) : ∀ (xs : List (α × Nat)) (fs fs' : FS),
    execRound fs (xs.map (fun x => (G x).map (saveGroups r (zfill z x.2)))) = .ok fs' →
    (∀ x ∈ xs, ∃ gs, G x = .ok gs) ∧ fs' = writeAll fs ((esOf z G xs).flatMap (Entry.writes r))
  | [], fs, fs', h => ⟨by simp, (Except.ok.inj h).symm⟩
  | x :: xs, fs, fs', h => by
    rw [List.map_cons] at h
    cases hx : G x with
    | error e => rw [hx] at h; cases h
    | ok gs =>
      rw [hx] at h
      obtain ⟨h2, h3⟩ := labelled_round r xs _ fs' ((execRound_cons_ok _ _ _).symm.trans h)
      refine ⟨List.forall_mem_cons.mpr ⟨⟨gs, hx⟩, h2⟩, ?_⟩
      rw [h3]
      simp only [esOf, List.flatMap_cons, gsOf_of_ok hx, List.flatMap_append, writeAll_append, saveGroups_eq]

/-- `hsum` may use that all tasks succeeded: in the later rounds the units `M x` are known only then -/
theorem labelled_round_inv {Q : Clu → Prop} {N : Nat} (hz : 0 < z) (r : Nat) (M : α × Nat → Multiset Clu)
    (xs : List (α × Nat)) (hx : xs.Pairwise (fun a b => a.2 ≠ b.2)) (hlt : ∀ x ∈ xs, x.2 < 10 ^ z)
    (hG : ∀ x ∈ xs, ∀ gs, G x = .ok gs → Extracted Q (M x) gs) (hM : ∀ x ∈ xs, ∀ u ∈ M x, Q u)
    (hsum : (∀ x ∈ xs, ∃ gs, G x = .ok gs) →
      (xs.map fun x => idsOf (M x)).sum = ((List.range N : List Nat) : Multiset Nat))
    {fs fs' : FS} (hwf : fs.WF) (hno : NoRoundFrom r fs)
    (h : execRound fs (xs.map (fun x => (G x).map (saveGroups r (zfill z x.2)))) = .ok fs') :
    ∃ es, Handed Q N r fs' es := by
  obtain ⟨hall, rfl⟩ := labelled_round z G r xs fs fs' h
  have hspec : ∀ x ∈ xs, Extracted Q (M x) (gsOf G x) := fun x hx' => by
    obtain ⟨gs, hgs⟩ := hall x hx'
    rw [gsOf_of_ok hgs]; exact hG x hx' gs hgs
  refine ⟨esOf z G xs, ?_, ⟨?_, ?_, ?_⟩, ?_⟩
  · refine dirInv_writeAll r fs hwf hno _ (esOf_keys z G xs hx fun x hx' => (hspec x hx').ok.nodup) ?_
    intro e he e' he'
    obtain ⟨x, hx', g, _, rfl⟩ := mem_esOf he
    obtain ⟨y, hy, g', _, rfl⟩ := mem_esOf he'
    show (zfill z x.2).length = (zfill z y.2).length
    rw [zfill_length z _ hz (hlt x hx'), zfill_length z _ hz (hlt y hy)]
  · intro e he c hc
    obtain ⟨x, hx', g, hg, rfl⟩ := mem_esOf he
    exact (hspec x hx').ok.keyed g hg c hc
  · intro e he c hc
    obtain ⟨x, hx', g, hg, rfl⟩ := mem_esOf he
    exact (hspec x hx').q (hM x hx') g hg c hc
  · rw [esOf_cs, ← hsum hall]
    exact congrArg _ (List.map_congr_left fun x hx' => (hspec x hx').ids)
  · intro e he
    obtain ⟨x, hx', g, hg, rfl⟩ := mem_esOf he
    exact (hspec x hx').ok.ne g hg

end

theorem purge_noRound (fs0 : FS) : NoRoundFrom 1 (purge fs0) := by
  intro n hn r' _
  rw [read_purge] at hn
  have hr : isRoundFile n = false := by
    cases hr : isRoundFile n with
    | false => rfl
    | true => rw [owned_of_round hr] at hn; exact absurd rfl hn
  exact ⟨Bool.eq_false_iff.mpr fun hm => (by rw [isRoundFile_of_matchK (k := .buf) hm] at hr; cases hr),
    Bool.eq_false_iff.mpr fun hm => (by rw [isRoundFile_of_matchK (k := .idx) hm] at hr; cases hr)⟩

section
variable {pol} (hpol : ∀ cfg, (pol cfg).Valid) {D : Nat → Row} {Q : Clu → Prop} (hQ : QOK D Q)
include hpol hQ

/-- the tasks read back disjoint batches of the pairs of the previous round, which together are all of them -/
theorem mid_step (c : Cfg) (hbf : 1 ≤ c.bf) {allRows : List Row} (hD : LabelsFrom D 0 allRows)
    {N r : Nat} {fs fs' : FS} {es : List Entry} (hdir : DirInv r fs es) (hes : EsOK Q N es)
    (h : execRound fs (midTasks pol c allRows (r + 1) fs) = .ok fs') :
    ∃ es', Handed Q N (r + 1) fs' es' := by
  rw [midTasks_eq] at h
  refine labelled_round_inv (z := _)
    (G := fun x : List (String × String) × Nat => mergingGroups pol c allRows fs (sortBatch x.1))
    (hz := repr_length_pos _) (r := r + 1) (M := fun x => ((x.1.flatMap (unitsRead fs) : List Clu) : Multiset Clu))
    (xs := (chunk c.binSize (prevPairs fs (r + 1))).zipIdx) (hx := pairwise_zipIdx_ne _)
    (hlt := fun x hx => chunk_index_lt c.binSize _ x.2 (List.mem_zipIdx' hx).1)
    (hG := fun x hx gs hgs => ?_) (hM := fun x hx u hu => ?_) (hsum := fun hall => ?_) hdir.wf hdir.fut h
  · -- the batch was sorted before it was read
    exact Multiset.coe_eq_coe.mpr ((sortBatch_perm x.1).flatMap_right _) ▸
      (mergingGroups_spec pol hpol hQ c hbf hD hgs).2
  · obtain ⟨p, hp, hu⟩ := List.mem_flatMap.mp hu
    exact readback_q hQ hdir hes (chunk_zipIdx_mem hx ((sortBatch_perm _).mem_iff.mpr hp)) u hu
  · have hall' : ∀ p ∈ prevPairs fs (r + 1), ∃ us, pairUnits fs p = .ok us := by
      intro p hp
      rw [← chunk_flatten c.binSize (prevPairs fs (r + 1)), ← List.zipIdx_map_fst 0 (chunk _ _)] at hp
      obtain ⟨ch, hch', hpch⟩ := List.mem_flatten.mp hp
      obtain ⟨x, hx, rfl⟩ := List.mem_map.mp hch'
      obtain ⟨gs, hgs⟩ := hall x hx
      exact (mergingGroups_spec pol hpol hQ c hbf hD hgs).1 p ((sortBatch_perm _).mem_iff.mpr hpch)
    rw [← readback_ids hdir hes hall']
    conv_rhs => rw [← chunk_flatten c.binSize (prevPairs fs (r + 1)), ← List.flatMap_id (L := chunk _ _),
      List.flatMap_assoc, idsOf_flatMap, ← List.zipIdx_map_fst 0 (chunk _ _), List.map_map]
    rfl

/-- `r' = r + 1` is a separate equation because the induction is on the log, whose index must be a variable -/
theorem MidLog.inv {c : Cfg} (hbf : 1 ≤ c.bf) {allRows : List Row} (hD : LabelsFrom D 0 allRows)
    {N k r' : Nat} {fs : FS} {ws : Writes} (h : MidLog pol c allRows k r' fs ws) :
    ∀ (r : Nat) (es : List Entry), r' = r + 1 → Handed Q N r fs es → ∃ es', Handed Q N (k + r) (writeAll fs ws) es' := by
  induction h with
  | zero => exact fun r es _ hes => ⟨es, by rwa [Nat.zero_add]⟩
  | @succ k _ _ _ _ e _ ih =>
    rintro r es rfl hes
    obtain ⟨es1, h1⟩ := mid_step hpol hQ c hbf hD hes.dir hes.esok (execRound_map_ok e)
    rw [writeAll_append, Nat.add_right_comm]
    exact ih (r + 1) es1 rfl h1

end

section
variable {pol} (hpol : ∀ cfg, (pol cfg).Valid) {files : List (List Row)} {Q : Clu → Prop} (hQ : QOK (dataOf files) Q)
include hpol hQ

/-- task `i` fits file `i`, whose rows are the data from the file's start index on; the start indices cut
`0 .. N-1` into consecutive ranges -/
theorem round1_step (c : Cfg) (hbf : 1 ≤ c.bf) {fs fs' : FS} (hwf : fs.WF) (hno : NoRoundFrom 1 fs)
    (h : execRound fs (initTasks pol c files) = .ok fs') :
    ∃ es, Handed Q (files.map List.length).sum 1 fs' es := by
  rw [initTasks_eq, foldl_starts, List.nil_append] at h
  have hlen : (files.zip (startsFrom 0 files)).length = files.length := by simp [startsFrom_length]
  have hfile : ∀ x ∈ (files.zip (startsFrom 0 files)).zipIdx, LabelsFrom (dataOf files) x.1.2 x.1.1 := fun x hx =>
    labelsFrom_file files ((List.mem_zipIdx' hx).2 ▸ List.getElem_mem _)
  refine labelled_round_inv (z := _) (G := fun x : (List Row × Nat) × Nat => initialGroups pol c x.1.1 x.1.2)
    (hz := repr_length_pos _) (r := 1) (M := fun x => rowUnits x.1.2 x.1.1)
    (xs := (files.zip (startsFrom 0 files)).zipIdx) (hx := pairwise_zipIdx_ne _) (hlt := fun x hx => ?_)
    (hG := fun x hx gs hgs => initialGroups_spec pol hpol hQ c hbf (hfile x hx) hgs)
    (hM := fun x hx => rowUnits_q hQ (hfile x hx)) (hsum := fun _ => ?_) hwf hno h
  · have hlt := (List.mem_zipIdx' hx).1
    have hpow := lt_pow_repr_length files.length
    omega
  · simp only [idsOf_rowUnits]
    rw [List.range_eq_range', ← startsFrom_ranges]
    conv_rhs => rw [← List.zipIdx_map_fst 0 (files.zip (startsFrom 0 files)), List.map_map]
    rfl

theorem RunLog.inv {c : Cfg} (hbf : 1 ≤ c.bf) {fs : FS} {ws : Writes} {cl : List Clu} (h : RunLog pol c files fs ws cl) (hwf : fs.WF) (hno : NoRoundFrom 1 fs) :
    ∃ es, Handed Q (files.map List.length).sum (c.nMidRounds + 1) (writeAll fs ws) es := by
  obtain ⟨e, hl, _⟩ := h
  obtain ⟨es1, h1⟩ := round1_step hpol hQ c hbf hwf hno (execRound_map_ok e)
  rw [writeAll_append]
  exact hl.inv hpol hQ hbf (labelsFrom_dataOf files) 1 es1 rfl h1

theorem multiround_result (c : Cfg) (hbf : 1 ≤ c.bf) (sched : Nat → List Nat → List Nat) (fs0 fs : FS)
    (h : multiround pol c files sched fs0 = .ok fs) :
    ∃ cl : List Clu, fs.read "clusters.pkl" = some (.clusters (cl.map (·.ids))) ∧
      (c.saveCentroids = true → fs.read "cluster-centroids-packed.pkl" = some (.centroids (cl.map (·.cent)))) ∧
      idsOf (cl : Multiset Clu) = ((List.range (files.map List.length).sum : List Nat) : Multiset Nat) ∧
      ∀ u ∈ cl, Q u := by
  obtain ⟨ws, cl, hl, rfl⟩ := (multiround_ok_iff pol c files sched fs0 fs).mp h
  obtain ⟨es2, hdir2, hes2, _⟩ := hl.inv hpol hQ hbf (WF_purge fs0) (purge_noRound fs0)
  obtain ⟨hall, hids, hq⟩ := finalClus_spec pol hpol hQ c hbf hl.final
  refine ⟨cl, read_result_clusters c _ ws cl, fun hc => read_result_centroids c hc _ ws cl, ?_, hq fun u hu => ?_⟩
  · rw [hids, readback_ids hdir2 hes2 hall]
  · obtain ⟨p, hp, hu⟩ := List.mem_flatMap.mp hu
    exact readback_q hQ hdir2 hes2 hp u hu

theorem multiround_handover (c : Cfg) (hbf : 1 ≤ c.bf) (sched : Nat → List Nat → List Nat) (fs0 fs : FS)
    (h : multiround pol c files sched fs0 = .ok fs) :
    ∃ (fs2 : FS) (es : List Entry), DirInv (c.nMidRounds + 1) fs2 es ∧ EsOK Q (files.map List.length).sum es ∧
      (c.cleanup = false → ∀ n, isRoundFile n = true → fs.read n = fs2.read n) := by
  obtain ⟨ws, cl, hl, rfl⟩ := (multiround_ok_iff pol c files sched fs0 fs).mp h
  obtain ⟨es2, hdir2, hes2, _⟩ := hl.inv hpol hQ hbf (WF_purge fs0) (purge_noRound fs0)
  refine ⟨_, es2, hdir2, hes2, fun hc n hn => ?_⟩
  rw [read_finish, hc, Bool.false_and, if_neg Bool.false_ne_true, writeAll_append]
  apply read_writeAll_of_not_mem
  intro hmem
  obtain ⟨x, hx, rfl⟩ := List.mem_map.mp hmem
  rw [not_isRoundFile_of_isFinalFile (finalWrites_final c cl x hx)] at hn
  cases hn

end

/-- a configuration like the defaults of `run_multiround_bitbirch` (for non-vacuity examples) -/
def exampleCfg : Cfg where
  bf := 50
  thr := 13/20
  thrChange := 0
  tol := 1/20
  initCrit := "diameter"
  midCrit := "diameter"
  finalCrit := "diameter"
  mode := .full
  splitAfterMid := false
  binSize := 10
  nMidRounds := 1
  saveCentroids := true
  cleanup := true

end BB.MR
