/-
Theory of `BBModel/Metrics.lean`, for `BBProps/C19.lean`.  Each index is first put in a form that
shows what it depends on (`chi_eq`, `dbi_eq`, `dunn_eq`, stated with `allCentral`, `picks`,
`dbiStats`, `dunnDists`); its invariance is then a permutation under a `map`, a `sum` or a
commutative fold: `…_perm` for the rows of one cluster, `…_perm_rows` for the rows inside every
cluster of a list, `…_perm_clusters` for the order of the clusters.  Python's `min` / `max` on floats
with NaN (`none`) are order-free only on NaN-free lists (`pyMaxList_perm`, `foldl_pyMinF_perm`).
-/
import BBModel.Metrics
import BBProofs.Bits
import BBProofs.Isim
import Mathlib.Algebra.BigOperators.Group.List.Basic
import Mathlib.Algebra.Order.Field.Rat
import Mathlib.Data.List.Perm.Basic
import Mathlib.Order.Lattice
import Mathlib.Tactic.SplitIfs
import Mathlib.Data.List.Sort

namespace BB.Metrics

theorem selectGo_spec (top : Option Nat) (m : Nat) : ∀ (l : List (List Nat)) (i : Nat),
    selectGo top m i l <+: l ∧
    (∀ t, top = some t → (selectGo top m i l).length ≤ t - i) ∧
    (∀ c ∈ selectGo top m i l, m ≤ c.length) ∧
    ∀ n, (∀ t, top = some t → i + n ≤ t) → (∀ c ∈ l.take n, m ≤ c.length) →
      l.take n <+: selectGo top m i l := by
  intro l
  induction l with
  | nil => intro i; simp [selectGo]
  | cons c cs ih =>
    intro i
    obtain ⟨h1, h2, h3, h4⟩ := ih (i + 1)
    unfold selectGo
    split_ifs with hc ht
    · -- the loop stops at a small cluster: no non-empty prefix qualifies
      refine ⟨List.nil_prefix, fun _ _ => Nat.zero_le _, fun _ h => absurd h List.not_mem_nil, fun n _ hall => ?_⟩
      cases n with
      | zero => exact List.nil_prefix
      | succ n => exact absurd (hall c List.mem_cons_self) (by omega)
    · -- the loop stops at `top`
      refine ⟨List.nil_prefix, fun _ _ => Nat.zero_le _, fun _ h => absurd h List.not_mem_nil, fun n hn _ => ?_⟩
      cases top with
      | none => simp at ht
      | some t =>
        have := hn t rfl
        have : t ≤ i := by simpa using ht
        rw [show n = 0 by omega]; exact List.nil_prefix
    · refine ⟨(List.cons_prefix_cons).2 ⟨rfl, h1⟩, fun t e => ?_, fun d hd => ?_,
        fun n hn hall => ?_⟩
      · have := h2 t e
        have : ¬ t ≤ i := by subst e; simpa using ht
        simp only [List.length_cons]; omega
      · rcases List.mem_cons.1 hd with rfl | hd
        · omega
        · exact h3 d hd
      · cases n with
        | zero => exact List.nil_prefix
        | succ n =>
          rw [List.take_succ_cons, List.cons_prefix_cons]
          exact ⟨rfl, h4 n (fun t e => by have := hn t e; omega)
            (fun d hd => hall d (List.mem_cons_of_mem _ hd))⟩

theorem countIf_eq (p : Nat → Bool) (l : List Nat) : countIf p l = l.countP p := by
  unfold countIf
  suffices h : ∀ a, l.foldl (fun acc s => if p s then acc + 1 else acc) a = a + l.countP p by
    simpa using h 0
  induction l with
  | nil => simp
  | cons x xs ih =>
    intro a
    rw [List.foldl_cons, ih, List.countP_cons]
    by_cases hx : p x <;> simp [hx]; omega

theorem numFps_eq (clusters : List (List Row)) :
    numFps clusters = (clusters.map List.length).sum := by
  unfold numFps; rw [← List.sum_eq_foldl]

theorem insertId_eq (x : Nat) (l : List Nat) : insertId x l = l.orderedInsert (· ≤ ·) x := by
  induction l with
  | nil => rfl
  | cons y ys ih => simp only [insertId, List.orderedInsert_cons, ih]

theorem sortIds_eq (c : List Nat) : sortIds c = c.insertionSort (· ≤ ·) := by
  induction c with
  | nil => rfl
  | cons x xs ih => rw [List.insertionSort_cons, ← ih, ← insertId_eq]; rfl

theorem sortIds_perm (c : List Nat) : (sortIds c).Perm c :=
  sortIds_eq c ▸ List.perm_insertionSort _ c

theorem sortIds_sorted (c : List Nat) : (sortIds c).Pairwise (· ≤ ·) :=
  sortIds_eq c ▸ List.pairwise_insertionSort _ c

theorem colSum_fetch (get : Nat → Row) (c ids : List Nat) (h : ids.Perm c) :
    colSum (fetch get c) = colSum (ids.map get) := by
  unfold fetch
  apply colSum_perm
  exact ((sortIds_perm c).trans h.symm).map get

theorem fetch_congr {get get' : Nat → Row} {c : List Nat} (h : ∀ i ∈ c, get i = get' i) :
    fetch get c = fetch get' c :=
  List.map_congr_left fun i hi => h i ((sortIds_perm c).mem_iff.mp hi)

theorem length_fetch (get : Nat → Row) (c : List Nat) : (fetch get c).length = c.length := by
  unfold fetch; rw [List.length_map, (sortIds_perm c).length_eq]

theorem foldl_add_rat {α : Type} (f : α → ℚ) (l : List α) (a : ℚ) :
    l.foldl (fun acc c => acc + f c) a = a + (l.map f).sum := by
  induction l generalizing a with
  | nil => simp
  | cons x xs ih => rw [List.foldl_cons, ih, List.map_cons, List.sum_cons, add_assoc]

theorem pyMax_eq_max (a b : ℚ) : pyMax a b = max a b := by
  unfold pyMax
  split
  · next h => rw [max_eq_right (le_of_lt h)]
  · next h => rw [max_eq_left (not_lt.mp h)]

theorem map_congr_forall₂ {α β : Type} {R : α → α → Prop} {f : α → β} {l l' : List α}
    (h : List.Forall₂ R l l') (hf : ∀ a b, R a b → f a = f b) : l.map f = l'.map f := by
  induction h with
  | nil => rfl
  | cons hab _ ih => rw [List.map_cons, List.map_cons, hf _ _ hab, ih]

theorem centroidOf_perm {c c' : List Row} (h : c.Perm c') : centroidOf c = centroidOf c' := by
  unfold centroidOf; rw [colSum_perm h, h.length_eq]

theorem dists_perm {c c' : List Row} (h : c.Perm c') (z : Row) :
    (dists c z).Perm (dists c' z) := by
  unfold dists jtArrVec
  exact (h.map _).map _

theorem wcTerm_perm {c c' : List Row} (h : c.Perm c') : wcTerm c = wcTerm c' := by
  unfold wcTerm
  rw [centroidOf_perm h]
  exact ((dists_perm h _).map _).sum_eq

theorem bcTerm_perm {c c' : List Row} (h : c.Perm c') (z : Row) : bcTerm z c = bcTerm z c' := by
  unfold bcTerm
  rw [centroidOf_perm h, h.length_eq]

theorem spread_perm {c c' : List Row} (h : c.Perm c') : spread c = spread c' := by
  unfold spread
  rw [centroidOf_perm h, h.length_eq, (dists_perm h _).sum_eq]

theorem totalSum_eq (clusters : List (List Row)) :
    totalSum clusters = (clusters.map colSum).foldl addLs [] := by
  unfold totalSum; rw [List.foldl_map]

theorem totalSum_flatten (clusters : List (List Row)) :
    totalSum clusters = colSum clusters.flatten := by
  unfold totalSum
  suffices h : ∀ acc, clusters.foldl (fun acc c => addLs acc (colSum c)) acc
      = addLs acc (colSum clusters.flatten) by
    rw [h, addLs_nil_left]
  induction clusters with
  | nil => intro acc; simp [colSum_nil, addLs_nil_right]
  | cons c cs ih =>
    intro acc
    rw [List.foldl_cons, ih, List.flatten_cons, colSum_append, addLs_assoc]

/-- `centroid_from_sum(total_linear_sum, all_fps_num)` -/
def allCentral (clusters : List (List Row)) : Row :=
  centroidFromSum (totalSum clusters) (numFps clusters)

theorem chi_eq (clusters : List (List Row)) :
    chi clusters =
      if clusters.length ≤ 1 then 0
      else (clusters.map (bcTerm (allCentral clusters))).sum
          * ((numFps clusters : ℚ) - (clusters.length : ℚ))
          / ((clusters.map wcTerm).sum * ((clusters.length : ℚ) - 1)) := by
  unfold chi allCentral
  simp only [foldl_add_rat, zero_add]

/-- an element together with the list of the other elements, for every position -/
def picks {α : Type} : List α → List (α × List α)
  | [] => []
  | x :: xs => (x, xs) :: (picks xs).map (fun p => (p.1, x :: p.2))

theorem mapIdx_eraseIdx_eq_picks {α β : Type} (l : List α) :
    ∀ (G : α × List α → β), l.mapIdx (fun i x => G (x, l.eraseIdx i)) = (picks l).map G := by
  induction l with
  | nil => intro G; simp [picks]
  | cons x xs ih =>
    intro G
    rw [List.mapIdx_cons]
    simp only [List.eraseIdx_cons_zero, List.eraseIdx_cons_succ, picks, List.map_cons,
      List.map_map]
    congr 1
    exact ih (fun p => G (p.1, x :: p.2))

theorem picks_perm_map {α β : Type} {l l' : List α} (h : l.Perm l') :
    ∀ (G : α × List α → β), (∀ x ys ys', ys.Perm ys' → G (x, ys) = G (x, ys')) →
      ((picks l).map G).Perm ((picks l').map G) := by
  induction h with
  | nil => intro G _; simp [picks]
  | @cons x l l' h ih =>
    intro G hG
    simp only [picks, List.map_cons, List.map_map]
    rw [hG x l l' h]
    exact (ih (G ∘ fun p => (p.1, x :: p.2))
      (fun y ys ys' hp => hG y (x :: ys) (x :: ys') (hp.cons x))).cons _
  | swap x y l =>
    intro G hG
    simp only [picks, List.map_cons, List.map_map]
    have e : List.map (G ∘ (fun p => (p.1, y :: p.2)) ∘ fun p => (p.1, x :: p.2)) (picks l)
        = List.map (G ∘ (fun p => (p.1, x :: p.2)) ∘ fun p => (p.1, y :: p.2)) (picks l) := by
      apply List.map_congr_left
      intro p _
      exact hG p.1 _ _ (List.Perm.swap x y p.2)
    rw [e]
    exact List.Perm.swap _ _ _
  | trans _ _ ih1 ih2 => intro G hG; exact (ih1 G hG).trans (ih2 G hG)

theorem dbiInner_eq (x : ℚ × Row) (others : List (ℚ × Row)) :
    dbiInner x others
      = (others.map (fun y => (x.1 + y.1) / (1 - jtBits x.2 y.2))).foldl (fun m v => max m v) 0 := by
  unfold dbiInner
  rw [List.foldl_map]
  simp only [pyMax_eq_max]

theorem dbiInner_perm (x : ℚ × Row) {ys ys' : List (ℚ × Row)} (h : ys.Perm ys') :
    dbiInner x ys = dbiInner x ys' := by
  rw [dbiInner_eq, dbiInner_eq]
  exact (h.map _).foldl_eq' (fun _ _ _ _ z => max_right_comm z _ _) 0

/-- `(S_i, central_i)` of every cluster -/
def dbiStats (clusters : List (List Row)) : List (ℚ × Row) :=
  clusters.map (fun c => (spread c, centroidOf c))

theorem dbi_eq (clusters : List (List Row)) :
    dbi clusters =
      if numFps clusters = 0 then 0
      else ((picks (dbiStats clusters)).map (fun p => dbiInner p.1 p.2)).sum
        / (numFps clusters : ℚ) := by
  unfold dbi dbiStats
  simp only [← List.sum_eq_foldl]
  rw [mapIdx_eraseIdx_eq_picks _ (fun p => dbiInner p.1 p.2)]

theorem numFps_perm_rows {l l' : List (List Row)} (h : List.Forall₂ List.Perm l l') :
    numFps l = numFps l' := by
  rw [numFps_eq, numFps_eq, map_congr_forall₂ h (fun _ _ hp => hp.length_eq)]

theorem numFps_perm_clusters {l l' : List (List Row)} (h : l.Perm l') : numFps l = numFps l' := by
  rw [numFps_eq, numFps_eq]; exact (h.map _).sum_eq

theorem totalSum_perm_rows {l l' : List (List Row)} (h : List.Forall₂ List.Perm l l') :
    totalSum l = totalSum l' := by
  rw [totalSum_eq, totalSum_eq, map_congr_forall₂ h (fun _ _ hp => colSum_perm hp)]

theorem totalSum_perm_clusters {l l' : List (List Row)} (h : l.Perm l') : totalSum l = totalSum l' := by
  rw [totalSum_eq, totalSum_eq]
  exact (h.map _).foldl_eq' (fun _ _ _ _ z => addLs_right_comm z _ _) []

theorem allCentral_perm_rows {l l' : List (List Row)} (h : List.Forall₂ List.Perm l l') :
    allCentral l = allCentral l' := by
  rw [allCentral, numFps_perm_rows h, totalSum_perm_rows h]; rfl

theorem allCentral_perm_clusters {l l' : List (List Row)} (h : l.Perm l') :
    allCentral l = allCentral l' := by
  rw [allCentral, numFps_perm_clusters h, totalSum_perm_clusters h]; rfl

theorem chi_perm_rows {l l' : List (List Row)} (h : List.Forall₂ List.Perm l l') :
    chi l = chi l' := by
  rw [chi_eq, chi_eq, allCentral_perm_rows h, numFps_perm_rows h, h.length_eq,
    map_congr_forall₂ h (fun _ _ hp => wcTerm_perm hp),
    map_congr_forall₂ h (fun _ _ hp => bcTerm_perm hp _)]

theorem chi_perm_clusters {l l' : List (List Row)} (h : l.Perm l') : chi l = chi l' := by
  rw [chi_eq, chi_eq, allCentral_perm_clusters h, numFps_perm_clusters h, h.length_eq,
    (h.map wcTerm).sum_eq, (h.map (bcTerm _)).sum_eq]

theorem dbi_perm_rows {l l' : List (List Row)} (h : List.Forall₂ List.Perm l l') :
    dbi l = dbi l' := by
  rw [dbi_eq, dbi_eq]
  unfold dbiStats
  rw [numFps_perm_rows h, map_congr_forall₂ h (f := fun c => (spread c, centroidOf c))
    (fun _ _ hp => by rw [spread_perm hp, centroidOf_perm hp])]

theorem dbi_perm_clusters {l l' : List (List Row)} (h : l.Perm l') : dbi l = dbi l' := by
  rw [dbi_eq, dbi_eq, numFps_perm_clusters h]
  have hp : (dbiStats l).Perm (dbiStats l') := h.map _
  rw [(picks_perm_map hp (fun p => dbiInner p.1 p.2)
    (fun x _ _ hy => dbiInner_perm x hy)).sum_eq]

theorem pairs_map {α β : Type} (f : α → β) (l : List α) :
    pairs (l.map f) = (pairs l).map (fun p => (f p.1, f p.2)) := by
  induction l with
  | nil => simp [pairs]
  | cons x xs ih => simp [pairs, ih, List.map_map, Function.comp_def]

theorem pairs_perm_map {α β : Type} (g : α → α → β) (hg : ∀ a b, g a b = g b a)
    {l l' : List α} (h : l.Perm l') :
    ((pairs l).map (fun p => g p.1 p.2)).Perm ((pairs l').map (fun p => g p.1 p.2)) := by
  induction h with
  | nil => simp [pairs]
  | @cons x l l' h ih =>
    simp only [pairs, List.map_append, List.map_map, Function.comp_def]
    exact (h.map _).append ih
  | swap x y l =>
    simp only [pairs, List.map_append, List.map_map, Function.comp_def, List.map_cons,
      List.cons_append]
    rw [hg y x]
    apply List.Perm.cons
    rw [← List.append_assoc, ← List.append_assoc]
    exact List.Perm.append_right _ List.perm_append_comm
  | trans _ _ ih1 ih2 => exact ih1.trans ih2

/-- the pair statistic `(column sums, size)` the inter-cluster distance depends on -/
def dunnStat (c : List Row) : List Nat × Nat := (colSum c, c.length)

def dunnDistS (a b : List Nat × Nat) : Option ℚ :=
  (isimFromSum (addLs a.1 b.1) (a.2 + b.2)).map (fun s => 1 - s)

theorem dunnDistS_comm (a b : List Nat × Nat) : dunnDistS a b = dunnDistS b a := by
  unfold dunnDistS; rw [addLs_comm, Nat.add_comm]

/-- the list of inter-cluster distances `dij`, in loop order -/
def dunnDists (clusters : List (List Row)) : List (Option ℚ) :=
  (pairs (clusters.map dunnStat)).map (fun p => dunnDistS p.1 p.2)

theorem dunn_eq (clusters : List (List Row)) :
    dunn clusters =
      match pyMaxList (clusters.map isimRows) with
      | none => none
      | some maxD =>
        if maxD = some 0 then some 1
        else divF ((dunnDists clusters).foldl (fun m v => pyMinF v m) (some 1)) maxD := by
  unfold dunn dunnWith dunnDists
  rw [pairs_map, List.map_map, List.foldl_map]
  rfl

theorem dunn_perm_rows {l l' : List (List Row)} (h : List.Forall₂ List.Perm l l') :
    dunn l = dunn l' := by
  rw [dunn_eq, dunn_eq]
  unfold dunnDists
  rw [map_congr_forall₂ h (fun _ _ hp => isimRows_perm hp),
    map_congr_forall₂ h (f := dunnStat)
      (fun _ _ hp => by unfold dunnStat; rw [colSum_perm hp, hp.length_eq])]

theorem perm_map_some {D D' : List (Option ℚ)} (h : D.Perm D') (hs : ∀ x ∈ D, x.isSome = true) :
    ∃ vs vs' : List ℚ, vs.Perm vs' ∧ D = vs.map some ∧ D' = vs'.map some := by
  have key : ∀ E : List (Option ℚ), (∀ x ∈ E, x.isSome = true) →
      E = (E.map (fun x => x.getD 0)).map some := fun E hE => by
    rw [List.map_map]
    conv_lhs => rw [← List.map_id E]
    apply List.map_congr_left
    intro x hx
    obtain ⟨v, rfl⟩ := Option.isSome_iff_exists.mp (hE x hx)
    rfl
  exact ⟨_, _, h.map _, key D hs, key D' fun x hx => hs x (h.mem_iff.mpr hx)⟩

/-- both of Python's `min(v, a)`, `max(a, v)` on non-NaN floats test `v > a`; so do `min v a` and
`max v a` as the library defines them -/
theorem pyMinF_some (v a : ℚ) : pyMinF (some v) (some a) = some (min v a) := by
  simp only [pyMinF, gtF, min_def, apply_ite some, decide_eq_true_eq, gt_iff_lt, ← not_le, ite_not]

theorem pyMaxF_some (a v : ℚ) : pyMaxF (some a) (some v) = some (max a v) := by
  rw [max_comm]
  simp only [pyMaxF, gtF, max_def, apply_ite some, decide_eq_true_eq, gt_iff_lt, ← not_le, ite_not]

theorem foldl_map_some {f : Option ℚ → Option ℚ → Option ℚ} {g : ℚ → ℚ → ℚ}
    (hfg : ∀ a v, f (some a) (some v) = some (g a v)) (vs : List ℚ) (a : ℚ) :
    (vs.map some).foldl f (some a) = some (vs.foldl g a) := by
  induction vs generalizing a with
  | nil => rfl
  | cons v vs ih => rw [List.map_cons, List.foldl_cons, List.foldl_cons, hfg, ih]

/-- `List.max?_cons'` reads `(a :: vs).max?` as this fold, `List.max?_eq_some_iff` says what a
maximum is -/
theorem foldl_max_spec (vs : List ℚ) (a : ℚ) :
    (vs.foldl max a ∈ a :: vs) ∧ ∀ v ∈ a :: vs, v ≤ vs.foldl max a :=
  List.max?_eq_some_iff.mp (List.max?_cons' (x := a) (xs := vs))

/-- on the values Python's `max` is the maximum, which two lists with the same members share -/
theorem pyMaxList_perm {D D' : List (Option ℚ)} (h : D.Perm D')
    (hs : ∀ x ∈ D, x.isSome = true) : pyMaxList D = pyMaxList D' := by
  obtain ⟨vs, vs', hv, rfl, rfl⟩ := perm_map_some h hs
  cases vs with
  | nil => rw [List.perm_nil.mp hv.symm]
  | cons a as =>
    cases vs' with
    | nil => exact absurd (List.perm_nil.mp hv) (by simp)
    | cons b bs =>
      simp only [List.map_cons, pyMaxList, foldl_map_some pyMaxF_some]
      obtain ⟨m1, u1⟩ := foldl_max_spec as a
      obtain ⟨m2, u2⟩ := foldl_max_spec bs b
      rw [le_antisymm (u2 _ (hv.mem_iff.mp m1)) (u1 _ (hv.mem_iff.mpr m2))]

theorem foldl_pyMinF_perm {D D' : List (Option ℚ)} (h : D.Perm D')
    (hs : ∀ x ∈ D, x.isSome = true) (a : ℚ) :
    D.foldl (fun m v => pyMinF v m) (some a) = D'.foldl (fun m v => pyMinF v m) (some a) := by
  obtain ⟨vs, vs', hv, rfl, rfl⟩ := perm_map_some h hs
  rw [foldl_map_some (fun a v => pyMinF_some v a), foldl_map_some (fun a v => pyMinF_some v a),
    hv.foldl_eq' (fun _ _ _ _ z => min_left_comm _ _ z) a]

theorem dunnDists_perm_clusters {l l' : List (List Row)} (h : l.Perm l') :
    (dunnDists l).Perm (dunnDists l') := by
  unfold dunnDists
  exact pairs_perm_map dunnDistS dunnDistS_comm (h.map dunnStat)

theorem mem_pairs {α : Type} {l : List α} {p : α × α} (h : p ∈ pairs l) : p.1 ∈ l ∧ p.2 ∈ l := by
  induction l with
  | nil => simp [pairs] at h
  | cons x xs ih =>
    simp only [pairs, List.mem_append, List.mem_map] at h
    rcases h with ⟨y, hy, rfl⟩ | h
    · simp [hy]
    · have := ih h
      simp [this.1, this.2]

theorem dunnDists_isSome {l : List (List Row)} (h : ∀ c ∈ l, 1 ≤ c.length) :
    ∀ x ∈ dunnDists l, x.isSome = true := by
  intro x hx
  unfold dunnDists at hx
  obtain ⟨p, hp, rfl⟩ := List.mem_map.mp hx
  obtain ⟨h1, h2⟩ := mem_pairs hp
  obtain ⟨c1, hc1, e1⟩ := List.mem_map.mp h1
  obtain ⟨c2, hc2, e2⟩ := List.mem_map.mp h2
  unfold dunnDistS
  rw [Option.isSome_map]
  apply isim_isSome
  rw [← e1, ← e2]
  have := h c1 hc1
  have := h c2 hc2
  simp only [dunnStat]
  omega

theorem dunn_perm_clusters {l l' : List (List Row)} (h : l.Perm l')
    (h2 : ∀ c ∈ l, 2 ≤ c.length) : dunn l = dunn l' := by
  rw [dunn_eq, dunn_eq]
  have hD : ∀ x ∈ l.map isimRows, x.isSome = true := by
    intro x hx
    obtain ⟨c, hc, rfl⟩ := List.mem_map.mp hx
    exact isim_isSome _ _ (h2 c hc)
  rw [pyMaxList_perm (h.map isimRows) hD, foldl_pyMinF_perm (dunnDists_perm_clusters h)
    (dunnDists_isSome fun c hc => Nat.le_of_succ_le (h2 c hc))]

theorem gtF_none_right (b : Option ℚ) : gtF b none = false := by
  cases b <;> rfl

theorem foldl_pyMaxF_none (xs : List (Option ℚ)) : xs.foldl pyMaxF none = none := by
  induction xs with
  | nil => rfl
  | cons x xs ih =>
    rw [List.foldl_cons]
    have : pyMaxF none x = none := by unfold pyMaxF; rw [gtF_none_right]; rfl
    rw [this, ih]

theorem divF_none_right (a : Option ℚ) : divF a none = none := by
  cases a <;> rfl

theorem unpackClusters_pack (F : Nat) (clusters : List (List Row))
    (hF : ∀ c ∈ clusters, ∀ r ∈ c, r.length = F) :
    unpackClusters F (clusters.map (fun c => c.map pack)) = clusters := by
  unfold unpackClusters
  rw [List.map_map]
  conv => rhs; rw [← List.map_id clusters]
  exact List.map_congr_left (fun c hc => map_unpack_pack c F (hF c hc))

theorem sums_of_getD_eq (f : Nat → Nat) (hf : f 0 = 0) (a b : List Nat)
    (h : ∀ i, a.getD i 0 = b.getD i 0) : (a.map f).sum = (b.map f).sum := by
  -- the heads agree (`getD 0`), the tails agree at every index (`getD (i + 1)`)
  induction a generalizing b with
  | nil =>
    induction b with
    | nil => rfl
    | cons y ys ih =>
      rw [List.map_cons, List.sum_cons, ← ih (fun i => h (i + 1)), ← show (0 : Nat) = y from h 0, hf]; rfl
  | cons x xs ih =>
    cases b with
    | nil =>
      rw [List.map_cons, List.sum_cons, ih [] (fun i => h (i + 1)), show x = 0 from h 0, hf]; rfl
    | cons y ys =>
      rw [List.map_cons, List.sum_cons, List.map_cons, List.sum_cons, ih ys (fun i => h (i + 1)),
        show x = y from h 0]

theorem isimFromSum_of_getD_eq (a b : List Nat) (n : Nat) (h : ∀ i, a.getD i 0 = b.getD i 0) :
    isimFromSum a n = isimFromSum b n := by
  have h1 := sums_of_getD_eq (fun k => k) rfl a b h
  rw [List.map_id', List.map_id'] at h1
  exact isimFromSum_congr n h1 (sums_of_getD_eq (fun k => k * k) rfl a b h)

/-- `jt_isim_packed(clust)` without `n_features` (all `8 * bytes` bits, i.e. the rows followed
by zero padding) is the iSIM of the rows -/
theorem isimRows_unpack_full (c : List Row) :
    isimRows ((c.map pack).map (fun b => unpack b (8 * b.length))) = isimRows c := by
  unfold isimRows
  rw [List.length_map, List.length_map]
  apply isimFromSum_of_getD_eq
  intro i
  rw [colSum_getD, colSum_getD, List.map_map, List.filter_map, List.length_map]
  congr 1
  apply List.filter_congr
  intro r _
  simp only [Function.comp]
  rw [unpack_full]
  obtain ⟨k, hk⟩ := flatMap_pack r
  rw [hk]
  -- reading a bit of the zero padding is reading past the end of the row
  simp only [List.getD_eq_getElem?_getD, List.getElem?_append, List.getElem?_replicate]
  split
  · rfl
  · rw [List.getElem?_eq_none (by omega)]; split <;> rfl

end BB.Metrics
