/-
Exactness of cluster summaries: a summary `(n, w, ls, ids, cent)` is *exact* for a data map
when its count, per-bit sums, centroid and counter width are the ones determined by the
fingerprints of its members.  Every operation of the tree (`ofRow`, `empty`, `merge`,
`update`, `trackOf`, `asUnit`, `explode`) preserves it, and in particular the wrap-around
arithmetic in the narrowest counter width `minSafe n` never wraps.
-/
import BBModel.Estimator
import BBProofs.Bits

namespace BB

theorem minSafe?_eq_some (n : Nat) (h : n < 2^64) : minSafe? n = some (minSafe n) := by
  unfold minSafe minSafe?
  split_ifs <;> rfl

theorem minSafe_eq_big (n : Nat) (h : 2^64 ≤ n) : minSafe n = .big := by
  unfold minSafe
  rw [if_neg (by omega), if_neg (by omega), if_neg (by omega), if_neg (by omega)]

/-- the model's unbounded counter stands exactly for the `ValueError` range of `min_safe_uint` -/
theorem minSafe_ne_big_iff (n : Nat) : minSafe n ≠ .big ↔ n < 2^64 := by
  constructor
  · intro h
    by_contra hn
    exact h (minSafe_eq_big n (by omega))
  · intro h
    unfold minSafe
    split_ifs <;> simp

theorem minSafe_eq_iff (n : Nat) (h : n < 2^64) :
    (minSafe n = .u8 ↔ n < 2^8) ∧
    (minSafe n = .u16 ↔ 2^8 ≤ n ∧ n < 2^16) ∧
    (minSafe n = .u32 ↔ 2^16 ≤ n ∧ n < 2^32) ∧
    (minSafe n = .u64 ↔ 2^32 ≤ n) := by
  unfold minSafe
  split_ifs <;> simp only [false_iff, true_iff, not_and, not_lt, not_le] <;> omega

theorem minSafe_bits_lt (n : Nat) (h : n < 2^64) : n < 2 ^ (minSafe n).bits := by
  unfold minSafe; split_ifs <;> simpa [W.bits]

theorem minSafe_narrowest (n : Nat) (h : n < 2^64) (w : W) (hw : n < 2 ^ w.bits) :
    (minSafe n).bits ≤ w.bits := by
  unfold minSafe; split_ifs <;> cases w <;> simp [W.bits] at hw ⊢ <;> omega

theorem minSafe_bits_mono {m n : Nat} (hmn : m ≤ n) (h : n < 2^64) :
    (minSafe m).bits ≤ (minSafe n).bits :=
  minSafe_narrowest m (by omega) (minSafe n) (lt_of_le_of_lt hmn (minSafe_bits_lt n h))

theorem wrap_big (x : Nat) : wrap .big x = x := rfl

theorem wrap_eq_mod (w : W) (hw : w ≠ .big) (x : Nat) : wrap w x = x % 2 ^ w.bits := by
  cases w <;> first | rfl | exact absurd rfl hw

theorem wrap_wrap (w : W) (x : Nat) : wrap w (wrap w x) = wrap w x := by
  cases w <;> simp [wrap]

/-- for counts ≥ 2^64 the model's counter is unbounded, so no bound on `n` is needed -/
theorem wrap_of_le (n x : Nat) (hx : x ≤ n) : wrap (minSafe n) x = x := by
  by_cases h : n < 2^64
  · rw [wrap_eq_mod _ ((minSafe_ne_big_iff n).mpr h)]
    exact Nat.mod_eq_of_lt (lt_of_le_of_lt hx (minSafe_bits_lt n h))
  · rw [minSafe_eq_big n (by omega)]; rfl

theorem map_wrap_of_le (n : Nat) (l : List Nat) (hl : ∀ x ∈ l, x ≤ n) :
    l.map (wrap (minSafe n)) = l := by
  induction l with
  | nil => rfl
  | cons x l ih =>
    rw [List.map_cons, wrap_of_le n x (hl x (by simp)), ih (fun y hy => hl y (by simp [hy]))]

/-- `data` maps a label to the fingerprint fitted under it. A summary is exact for its members. -/
structure Exact (data : Nat → Row) (c : Clu) : Prop where
  n_eq : c.n = c.ids.length
  ls_eq : c.ls = colSum (c.ids.map data)
  cent_eq : c.cent = centroidFromSum c.ls c.n
  w_eq : c.w = minSafe c.n

/-- the centroid of an exact cluster in terms of its members alone -/
theorem Exact.cent_members {D : Nat → Row} {c : Clu} (h : Exact D c) :
    c.cent = centroidFromSum (colSum (c.ids.map D)) c.ids.length := by
  rw [h.cent_eq, h.ls_eq, h.n_eq]

/-- an exact summary of at least one member -/
def ExactN (D : Nat → Row) (c : Clu) : Prop := Exact D c ∧ 1 ≤ c.n

theorem mem_colSum_le (rows : List Row) : ∀ x ∈ colSum rows, x ≤ rows.length := by
  intro x hx
  obtain ⟨i, hi, rfl⟩ := List.mem_iff_getElem.mp hx
  have := colSum_getD_le rows i
  simpa [List.getD_eq_getElem?_getD, List.getElem?_eq_getElem hi] using this

theorem exact_sum_le {D : Nat → Row} {c : Clu} (h : Exact D c) : ∀ x ∈ c.ls, x ≤ c.n := by
  intro x hx
  rw [h.ls_eq] at hx
  have := mem_colSum_le _ x hx
  rwa [List.length_map, ← h.n_eq] at this

theorem centroidFromSum_rowToNat_one (r : Row) : centroidFromSum (rowToNat r) 1 = r := by
  unfold centroidFromSum rowToNat
  rw [if_pos (le_refl 1), List.map_map]
  conv_rhs => rw [← List.map_id r]
  apply List.map_congr_left
  intro b _
  cases b <;> simp

theorem centroidFromSum_nil (n : Nat) : centroidFromSum [] n = [] := by
  unfold centroidFromSum; split <;> rfl

theorem exact_ofRow (D : Nat → Row) {r : Row} {label : Nat} (h : D label = r) : Exact D (Clu.ofRow r label) where
  n_eq := rfl
  ls_eq := by
    show rowToNat r = colSum ([label].map D)
    rw [List.map_singleton, colSum_singleton, h]
  cent_eq := (centroidFromSum_rowToNat_one r).symm
  w_eq := rfl

theorem exact_empty (D : Nat → Row) : Exact D Clu.empty where
  n_eq := rfl
  ls_eq := rfl
  cent_eq := (centroidFromSum_nil 0).symm
  w_eq := rfl

theorem exact_addLs {D : Nat → Row} {c s : Clu} (hc : Exact D c) (hs : Exact D s) :
    addLs c.ls s.ls = colSum ((c.ids ++ s.ids).map D) := by
  rw [List.map_append, colSum_append, ← hc.ls_eq, ← hs.ls_eq]

theorem exact_addLs_le {D : Nat → Row} {c s : Clu} (hc : Exact D c) (hs : Exact D s) : ∀ x ∈ addLs c.ls s.ls, x ≤ c.n + s.n := by
  intro x hx
  rw [exact_addLs hc hs] at hx
  have := mem_colSum_le _ x hx
  rwa [List.length_map, List.length_append, ← hc.n_eq, ← hs.n_eq] at this

/-- the summary of the union, in unbounded arithmetic -/
def Clu.join (c s : Clu) : Clu :=
  { n := c.n + s.n, w := minSafe (c.n + s.n), ls := addLs c.ls s.ls, ids := c.ids ++ s.ids,
    cent := centroidFromSum (addLs c.ls s.ls) (c.n + s.n) }

theorem merge_eq_join {D : Nat → Row} {c s : Clu} (hc : Exact D c) (hs : Exact D s) : c.merge s = c.join s := by
  have h := map_wrap_of_le _ _ (exact_addLs_le hc hs)
  simp only [Clu.merge, Clu.mergedSummary, Clu.join, h]

theorem update_eq_join {D : Nat → Row} {c s : Clu} (hc : Exact D c) (hs : Exact D s) : c.update s = c.join s := by
  have h := map_wrap_of_le _ _ (exact_addLs_le hc hs)
  simp only [Clu.update, Clu.join, h]

theorem exact_join {D : Nat → Row} {c s : Clu} (hc : Exact D c) (hs : Exact D s) : Exact D (c.join s) where
  n_eq := by simp only [Clu.join, List.length_append, ← hc.n_eq, ← hs.n_eq]
  ls_eq := exact_addLs hc hs
  cent_eq := rfl
  w_eq := rfl

theorem merge_n (c s : Clu) : (c.merge s).n = c.n + s.n := rfl

theorem merge_w (c s : Clu) : (c.merge s).w = minSafe (c.n + s.n) := rfl

theorem exact_merge {D : Nat → Row} {c s : Clu} (hc : Exact D c) (hs : Exact D s) : Exact D (c.merge s) :=
  merge_eq_join hc hs ▸ exact_join hc hs

theorem update_n (c s : Clu) : (c.update s).n = c.n + s.n := rfl

theorem update_w (c s : Clu) : (c.update s).w = minSafe (c.n + s.n) := rfl

theorem update_unbounded {D : Nat → Row} {c s : Clu} (hc : Exact D c) (hs : Exact D s) :
    (c.update s).ls = addLs c.ls s.ls ∧ (c.update s).n = c.n + s.n := by
  rw [update_eq_join hc hs]; exact ⟨rfl, rfl⟩

theorem exact_update {D : Nat → Row} {c s : Clu} (hc : Exact D c) (hs : Exact D s) : Exact D (c.update s) :=
  update_eq_join hc hs ▸ exact_join hc hs

theorem update_eq_merge (data : Nat → Row) (c s : Clu) (hc : Exact data c) (hs : Exact data s) : c.update s = c.merge s :=
  (update_eq_join hc hs).trans (merge_eq_join hc hs).symm

theorem foldl_update_ids_n (cs : List Clu) : ∀ c0 : Clu,
    (cs.foldl Clu.update c0).ids = c0.ids ++ (cs.map (·.ids)).flatten ∧
    (cs.foldl Clu.update c0).n = c0.n + (cs.map (·.n)).sum := by
  induction cs with
  | nil => intro c0; simp
  | cons c cs ih =>
    intro c0
    obtain ⟨a, b⟩ := ih (c0.update c)
    rw [List.foldl_cons, a, b]
    simp [Clu.update, Nat.add_assoc]

theorem trackOf_ids (cs : List Clu) : (trackOf cs).ids = (cs.map (·.ids)).flatten :=
  (foldl_update_ids_n cs Clu.empty).1

theorem trackOf_n (cs : List Clu) : (trackOf cs).n = (cs.map (·.n)).sum :=
  (foldl_update_ids_n cs Clu.empty).2.trans (Nat.zero_add _)

theorem exact_trackOf {D : Nat → Row} {cs : List Clu} (h : ∀ c ∈ cs, Exact D c) : Exact D (trackOf cs) := by
  unfold trackOf
  generalize Clu.empty = c0, exact_empty D = h0
  induction cs generalizing c0 with
  | nil => exact h0
  | cons c cs ih =>
    exact ih (fun x hx => h x (by simp [hx])) _ (exact_update h0 (h c (by simp)))

theorem Exact.congr {D : Nat → Row} {a b : Clu} (ha : Exact D a) (hb : Exact D b)
    (h : a.ids.Perm b.ids) : a.n = b.n ∧ a.ls = b.ls :=
  ⟨by rw [ha.n_eq, hb.n_eq, h.length_eq],
    by rw [ha.ls_eq, hb.ls_eq]; exact colSum_perm (h.map D)⟩

theorem foldl_addLs_exact {D : Nat → Row} {cs : List Clu} (h : ∀ c ∈ cs, Exact D c) (acc : List Nat) :
    cs.foldl (fun acc c => addLs acc c.ls) acc = addLs acc (colSum ((cs.map (·.ids)).flatten.map D)) := by
  induction cs generalizing acc with
  | nil => simp [colSum_nil, addLs_nil_right]
  | cons c cs ih =>
    rw [List.foldl_cons, ih (fun x hx => h x (by simp [hx])), List.map_cons, List.flatten_cons,
      List.map_append, colSum_append, ← (h c (by simp)).ls_eq, addLs_assoc]

theorem asUnit_eq {D : Nat → Row} {c : Clu} (h : Exact D c) : c.asUnit = c := by
  unfold Clu.asUnit Clu.ofBuffer
  rw [← h.cent_eq]

theorem exact_asUnit {D : Nat → Row} {c : Clu} (h : Exact D c) : Exact D c.asUnit := by
  rw [asUnit_eq h]; exact h

theorem exact_ofBuffer_singleton (D : Nat → Row) (id : Nat) :
    Exact D (Clu.ofBuffer .u8 (rowToNat (D id)) 1 [id]) where
  n_eq := rfl
  ls_eq := by
    show rowToNat (D id) = colSum ([id].map D)
    rw [List.map_singleton, colSum_singleton]
  cent_eq := rfl
  w_eq := rfl

theorem explode_eq (D : Nat → Row) (rows : List Row) (im : Nat) (ids : List Nat)
    (hd : ∀ id ∈ ids, im ≤ id ∧ rows[id - im]? = some (D id)) :
    explode rows im ids = some (ids.map fun id => Clu.ofBuffer .u8 (rowToNat (D id)) 1 [id]) := by
  unfold explode
  induction ids with
  | nil => rfl
  | cons id ids ih =>
    obtain ⟨h1, h2⟩ := hd id List.mem_cons_self
    rw [List.mapM_cons, if_neg (Nat.not_lt.mpr h1), h2, ih fun x hx => hd x (List.mem_cons_of_mem _ hx)]
    rfl

theorem exact_explode (data : Nat → Row) (rows : List Row) (im : Nat) (ids : List Nat)
    (us : List Clu) (hd : ∀ id ∈ ids, im ≤ id ∧ rows[id - im]? = some (data id))
    (h : explode rows im ids = some us) :
    (∀ u ∈ us, Exact data u) ∧ us.map (·.ids) = ids.map (fun i => [i]) := by
  obtain rfl := Option.some.inj ((explode_eq data rows im ids hd).symm.trans h)
  refine ⟨fun u hu => ?_, by rw [List.map_map]; rfl⟩
  obtain ⟨id, _, rfl⟩ := List.mem_map.mp hu
  exact exact_ofBuffer_singleton data id

theorem explode_isSome (D : Nat → Row) (rows : List Row) (im : Nat) (ids : List Nat)
    (hd : ∀ id ∈ ids, im ≤ id ∧ rows[id - im]? = some (D id)) :
    (explode rows im ids).isSome := by
  rw [explode_eq D rows im ids hd]; rfl

end BB
