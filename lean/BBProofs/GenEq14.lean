/-
GenEq14 — the scikit-learn wrapper (`bblean/sklearn.py`, class `BitBirch`), methods `fit`, `partial_fit`, `fit_predict` as
translated: when `labels_` is recomputed and what `fit_predict` returns.  Calls of untranslated methods of the
object itself are log entries (`super().fit` = 10, `get_assignments` = 11) and their results inputs (`fit_get_assignments`
is the result of the call made inside `fit`, `fit_predict_get_assignments` of the one made inside `fit_predict`, …);
`compute_labels` and the stacked centroids of the sorted leaf entries are inputs.
-/
import BBProofs.GenEq

namespace BB
open PV

theorem arange_one (n : Nat) : PV.arange (PV.int 1) (PV.int ((n : Int) + 1)) = PV.arr .big (List.range' 1 n) := by
  simpa using arange_nat 1 (n + 1)

/-- `fit`: one `super().fit`, then — only when `compute_labels` — one `get_assignments` whose result becomes `labels_`;
the centres are the stacked centroids, their labels `1 … n` -/
theorem gen_sk_fit (expf : Rat → Rat) (w : W) (cs log : List Nat) (b : Bool) (l0 c0 sl0 nf0 X y p nfe ga : PV) :
    BBGen.SkBitBirch_fit expf l0 c0 sl0 nf0 (arr .big log) X y p nfe (arr w cs) ga (bool b)
      = [str "self", if b then ga else l0, arr w cs, arr .big (List.range' 1 cs.length), int cs.length,
         arr .big (log ++ [10] ++ (if b then [11] else []))] := by
  cases b <;> simp only [BBGen.SkBitBirch_fit, pv, arange_one]

/-- `fit_predict`: whatever `compute_labels` is, exactly one `get_assignments` call is made, after the `super().fit` of this
call, and its result is both the value returned and the new `labels_` -/
theorem gen_sk_fit_predict (expf : Rat → Rat) (w : W) (cs log : List Nat) (b : Bool) (l0 c0 sl0 nf0 X y p nfe gaFit gaFp : PV) :
    BBGen.SkBitBirch_fit_predict expf l0 c0 sl0 nf0 (arr .big log) X y p nfe (arr w cs) gaFit gaFp (bool b)
      = [if b then gaFit else gaFp, if b then gaFit else gaFp, arr w cs, arr .big (List.range' 1 cs.length), int cs.length,
         arr .big (log ++ [10, 11])] := by
  cases b <;> simp only [BBGen.SkBitBirch_fit_predict, gen_sk_fit, pv]

/-- `partial_fit`: without data a `ValueError` and nothing is called or changed; with data `fit`, and — only when
`compute_labels` — `labels_` ends as the result of the last `get_assignments` call -/
theorem gen_sk_partial_fit (expf : Rat → Rat) (w : W) (cs log : List Nat) (b : Bool) (l0 c0 sl0 nf0 y p nfe gaFit gaPf : PV) :
    BBGen.SkBitBirch_partial_fit expf l0 c0 sl0 nf0 (arr .big log) PV.pynone y p nfe (arr w cs) gaFit gaPf (bool b)
      = [err "ValueError", l0, c0, sl0, nf0, arr .big log] ∧
    ∀ xs : List Nat, BBGen.SkBitBirch_partial_fit expf l0 c0 sl0 nf0 (arr .big log) (arr .u8 xs) y p nfe (arr w cs) gaFit gaPf (bool b)
      = [str "self", if b then gaPf else l0, arr w cs, arr .big (List.range' 1 cs.length), int cs.length,
         arr .big (log ++ [10] ++ (if b then [11, 11] else []))] := by
  refine ⟨by simp only [BBGen.SkBitBirch_partial_fit, pv], fun xs => ?_⟩
  cases b <;> simp only [BBGen.SkBitBirch_partial_fit, gen_sk_fit, pv]

end BB
