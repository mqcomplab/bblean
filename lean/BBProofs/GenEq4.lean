/-
GenEq4 — the configuration logic of the estimator, as translated from `bitbirch.py`
(`BitBirch.__init__` up to the first statement that does not concern `threshold`, `branching_factor`,
`_merge_accept_fn`; the `tolerance` and `merge_criterion` properties; `set_merge`), computes the model's
`selectMerge` / `construct` / `setMerge`.

Merge-function objects are `PV.obj "<class>" a b c`; `objOf expf m` is the object of the model's `m`.
Only the three followed attributes of the estimator are represented: `[threshold, branching_factor, fn]`.
-/
import BBProofs.GenEq3
import BBModel.Estimator

namespace BB
open PV

/-- the `criterion` argument -/
def critPV (expf : Rat → Rat) : Option CritArg → PV
  | none => PV.pynone
  | some (.name s) => PV.str s
  | some (.obj m) => objOf expf m

theorem objOf_norm (expf : Rat → Rat) (m : MergeFn) : objOf expf m.norm = objOf expf m := by
  obtain ⟨c, t⟩ := m
  cases c <;> simp [MergeFn.norm, Crit.hasTol, objOf]

@[pv] theorem isinstance_objOf (expf : Rat → Rat) (m : MergeFn) :
    BBGen.MergeAcceptFunction_isinstance (objOf expf m) = PV.bool true := by
  obtain ⟨c, t⟩ := m
  cases c <;> simp only [objOf, BBGen.MergeAcceptFunction_isinstance]

@[pv] theorem isinstance_str (s : String) : BBGen.MergeAcceptFunction_isinstance (PV.str s) = PV.bool false := rfl
@[pv] theorem isinstance_none : BBGen.MergeAcceptFunction_isinstance PV.pynone = PV.bool false := rfl

theorem gen_tolerance (expf : Rat → Rat) (a b : PV) (m : MergeFn) :
    BBGen.BitBirch_tolerance expf a b (objOf expf m) = optRatPV m.tolerance? := by
  obtain ⟨c, t⟩ := m
  cases c <;> rfl

theorem gen_merge_criterion (expf : Rat → Rat) (a b : PV) (m : MergeFn) :
    BBGen.BitBirch_merge_criterion expf a b (objOf expf m) = PV.str m.crit.name := by
  obtain ⟨c, t⟩ := m
  cases c <;> rfl

@[pv] theorem isNone_objOf (expf : Rat → Rat) (m : MergeFn) : PV.isNone (objOf expf m) = PV.bool false := by
  obtain ⟨c, t⟩ := m; cases c <;> rfl
@[pv] theorem guardL_objOf (expf : Rat → Rat) (m : MergeFn) (st k : List PV) : PV.guardL (objOf expf m) st k = k := by
  obtain ⟨c, t⟩ := m; cases c <;> rfl

theorem tol_default : PV.flt (some ((3602879701896397 : Rat) / 72057594037927936)) = PV.flt (some defaultTol) := rfl

theorem gen_dispatch_name (expf : Rat → Rat) (s : String) (t : Rat) :
    BBGen.get_merge_accept_fn expf (PV.str s) (PV.flt (some t)) =
      match Crit.ofName? s with
      | some c => objOf expf ⟨c, t⟩
      | none => PV.err "ValueError" := by
  rw [gen_dispatch]; unfold getMergeFn; cases Crit.ofName? s <;> rfl

/-- the tail of `set_merge`: `if threshold is not None: …; if branching_factor is not None: …` -/
theorem set_tail (thr0 : Rat) (bf0 : Nat) (fn : PV) (thr : Option Rat) (bf : Option Nat) :
    PV.iteLS (PV.not (PV.isNone (optRatPV thr))) [PV.flt (some thr0), PV.int bf0, fn]
      (let v_ := optRatPV thr
       PV.guardL v_ [PV.flt (some thr0), PV.int bf0, fn]
        (let self_threshold := v_
         PV.iteLS (PV.not (PV.isNone (optNatPV bf))) [self_threshold, PV.int bf0, fn]
          (let v_ := optNatPV bf
           PV.guardL v_ [self_threshold, PV.int bf0, fn] [PV.pynone, self_threshold, v_, fn])
          [PV.pynone, self_threshold, PV.int bf0, fn]))
      (PV.iteLS (PV.not (PV.isNone (optNatPV bf))) [PV.flt (some thr0), PV.int bf0, fn]
        (let v_ := optNatPV bf
         PV.guardL v_ [PV.flt (some thr0), PV.int bf0, fn] [PV.pynone, PV.flt (some thr0), v_, fn])
        [PV.pynone, PV.flt (some thr0), PV.int bf0, fn])
      = [PV.pynone, PV.flt (some (thr.getD thr0)), PV.int ((bf.getD bf0 : Nat)), fn] := by
  cases thr <;> cases bf <;> simp only [optRatPV, optNatPV, pv, Option.getD_none, Option.getD_some]

/-- the state of the estimator's configuration -/
def cfgState (expf : Rat → Rat) (thr : Rat) (bf : Nat) (m : MergeFn) : List PV :=
  [PV.flt (some thr), PV.int bf, objOf expf m]

theorem hasattr_tol_objOf (expf : Rat → Rat) (m : MergeFn) :
    BBGen.MergeAcceptFunction_hasattr (objOf expf m) "tolerance" = PV.bool m.crit.hasTol := by
  obtain ⟨c, t⟩ := m; cases c <;> rfl

theorem setattr_tol_objOf (expf : Rat → Rat) (m : MergeFn) (t : Rat) (h : m.crit.hasTol = true) :
    BBGen.MergeAcceptFunction_setattr (objOf expf m) "tolerance" (PV.flt (some t)) = objOf expf { m with tol := t } := by
  obtain ⟨c, t0⟩ := m; cases c <;> simp_all [Crit.hasTol, objOf, BBGen.MergeAcceptFunction_setattr]

/-! `selectMerge` by the form of its arguments (the definition, one clause at a time) -/

theorem selectMerge_obj (cur : Option MergeFn) (m : MergeFn) (tol : Option Rat) :
    selectMerge cur (some (.obj m)) tol = if tol.isSome then .error .value else .ok m.norm := rfl

theorem selectMerge_str (cur : Option MergeFn) (s : String) (tol : Option Rat) :
    selectMerge cur (some (.name s)) tol =
      match Crit.ofName? s with
      | none => .error .value
      | some c => .ok (MergeFn.norm { crit := c, tol := tolChoice tol (cur.bind MergeFn.tolerance?) }) := rfl

theorem selectMerge_keep (m : MergeFn) : selectMerge (some m) none none = .ok m := rfl

theorem selectMerge_retol (m : MergeFn) (t : Rat) :
    selectMerge (some m) none (some t) = if m.crit.hasTol then .ok { m with tol := t } else .error .value := rfl

/-- `set_merge` with `_global_merge_accept = None`; on failure the attributes are exactly the ones the estimator had -/
theorem gen_set_merge (expf : Rat → Rat) (thr0 : Rat) (bf0 : Nat) (m0 : MergeFn)
    (crit : Option CritArg) (tol thr : Option Rat) (bf : Option Nat) :
    BBGen.BitBirch_set_merge expf (PV.flt (some thr0)) (PV.int bf0) (objOf expf m0)
        (critPV expf crit) (optRatPV tol) (optRatPV thr) (optNatPV bf) PV.pynone
      = match selectMerge (some m0) crit tol with
        | .error _ => PV.err "ValueError" :: cfgState expf thr0 bf0 m0
        | .ok m => PV.pynone :: cfgState expf (thr.getD thr0) (bf.getD bf0) m := by
  unfold BBGen.BitBirch_set_merge
  -- the five copies of the tail first: `pv` would rewrite inside them
  simp only [set_tail]
  simp only [pv, cfgState, gen_tolerance, hasattr_tol_objOf, tol_default]
  rcases crit with _ | (s | m')
  · cases tol with
    | none => exact (selectMerge_keep m0).symm ▸ rfl  -- nothing given: the function stays
    | some t =>
      -- only a tolerance: set on the current function if it has the attribute, else `ValueError`
      rw [selectMerge_retol]
      cases h : m0.crit.hasTol
      · simp only [pv, critPV, optRatPV]
      · simp only [pv, critPV, optRatPV, setattr_tol_objOf expf m0 t h]
  · -- a name: `get_merge_accept_fn(name, tolerance or the current one or the default)`
    rw [selectMerge_str]
    cases hname : Crit.ofName? s <;> cases tol <;> cases hcur : m0.tolerance? <;>
      simp only [pv, critPV, optRatPV, gen_dispatch_name, hname, hcur, tolChoice, objOf_norm]
  · -- a merge-function object: taken as it is, a tolerance beside it is refused
    rw [selectMerge_obj]
    cases tol <;> simp only [pv, critPV, optRatPV, objOf_norm]

/-- the constructor's configuration part: `None` and the configured attributes, or
`ValueError` (the merge function not yet assigned) -/
theorem gen_init (expf : Rat → Rat) (thr : Rat) (bf : Nat) (crit : Option CritArg) (tol : Option Rat) :
    BBGen.BitBirch_init expf (PV.flt (some thr)) (PV.int bf) (critPV expf crit) (optRatPV tol) PV.pynone
      = match selectMerge none (some (crit.getD (.name "diameter"))) tol with
        | .error _ => [PV.err "ValueError", PV.flt (some thr), PV.int bf, PV.pynone]
        | .ok m => PV.pynone :: cfgState expf thr bf m := by
  unfold BBGen.BitBirch_init cfgState
  rcases crit with _ | (s | m')
  · -- no criterion: the name "diameter"
    have hd : Crit.ofName? "diameter" = some .diameter := rfl
    rw [Option.getD_none, selectMerge_str]
    cases tol <;>
      simp only [pv, critPV, optRatPV, tol_default, gen_dispatch_name, hd, tolChoice, objOf_norm]
  · rw [Option.getD_some, selectMerge_str]
    cases hname : Crit.ofName? s <;> cases tol <;>
      simp only [pv, critPV, optRatPV, tol_default, gen_dispatch_name, hname, tolChoice, objOf_norm]
  · rw [Option.getD_some, selectMerge_obj]
    cases tol <;>
      simp only [pv, critPV, optRatPV, objOf_norm]

end BB
