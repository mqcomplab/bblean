/-
What the operations preserve.  `Inv F Q I L` is the invariant of the estimator state machine, generic in a
per-cluster predicate `Q` that the merges accepted by the configurations in force keep, in a property `I` of
the tree that single insertions carry (`Carried`), and in the multiset `L` of labels held.  Every operation is
`delInternal`, `reset`, a change of configuration or `Est.grow` (Grow.lean), so `Inv.grow` is the one
preservation lemma and `Inv.step`, under the side conditions `OpOK`, the one case analysis over the operations;
`EInv` is the instance `einv_iff`, and `EInv.of_history` the way out for a new cluster predicate.  Then the
labels a history inserts (`labelsOf`) and re-insertion (`Coarsens`).
-/
import BBProofs.Grow

namespace BB

/-- the invariant of the estimator when the labels held are `0 .. numFitted-1` (`Inv` has them as a parameter) -/
structure EInv (F : Nat) (Q : Clu → Prop) (e : Est) : Prop where
  bf : 2 ≤ e.cfg.bf
  ok : e.st.OK
  fF : ∀ F', e.st.F? = some F' → F' = F
  lsLen : ∀ c ∈ e.st.lclusM, c.ls.length = F
  part : idsOf e.st.lclusM = ((List.range e.numFitted : List Nat) : Multiset Nat)
  q : ∀ c ∈ e.st.lclusM, Q c

theorem card_range_eq {n m : Nat}
    (h : ((List.range n : List Nat) : Multiset Nat) = ((List.range m : List Nat) : Multiset Nat)) : n = m := by
  have := congrArg Multiset.card h
  simpa using this

section Invariant
variable (pol : Cfg → Policy)

def MergeClosed (Q : Clu → Prop) (cfg : Cfg) : Prop :=
  ∀ c s, Q c → Q s → (pol cfg).accept c s = true → Q (c.merge s)

/-- what the invariant needs of the policies, of `Q` and of `I`: valid policies, `Q` kept when a cluster is
turned into a unit, and `I` a property of the tree that unit insertions keep while the units satisfy `Q`
(under capacities ≥ 2, which `Inv.bf` provides and well-formedness needs; the state invariant needs 1: `Shape`) -/
structure Carried (Q : Clu → Prop) (I : TreeSt → Prop) : Prop where
  valid : ∀ cfg, (pol cfg).Valid
  unit : ∀ c, Q c → Q c.asUnit
  uninit : I .uninit
  ins : ∀ cfg F, 2 ≤ cfg.bf → ∀ st st' u, I st → Q u → insertUnit (pol cfg) cfg.bf F st u = some st' → I st'
  leaves : ∀ F ls, I (.leavesOnly F ls)

/-- `EInv` with the labels as a parameter (`L`: any numbers, duplicates allowed) and a property
`I` of the tree carried along; the feature count is one more merge-closed cluster property -/
structure Inv (F : Nat) (Q : Clu → Prop) (I : TreeSt → Prop) (L : Multiset Nat) (e : Est) : Prop where
  bf : 2 ≤ e.cfg.bf
  ok : e.st.OK
  fF : e.st.HasF F
  part : idsOf e.st.lclusM = L
  cnt : e.numFitted = Multiset.card L
  q : ∀ c ∈ e.st.lclusM, c.ls.length = F ∧ Q c
  tree : I e.st

variable {pol} {F : Nat} {Q : Clu → Prop} {I : TreeSt → Prop} {L : Multiset Nat} {e : Est}

theorem inv_range_iff :
    Inv F Q I (List.range e.numFitted : List Nat) e ↔ EInv F Q e ∧ I e.st :=
  ⟨fun h => ⟨⟨h.bf, h.ok, h.fF, fun c hc => (h.q c hc).1, h.part, fun c hc => (h.q c hc).2⟩, h.tree⟩,
   fun h => ⟨h.1.bf, h.1.ok, h.1.fF, h.1.part, by simp, fun c hc => ⟨h.1.lsLen c hc, h.1.q c hc⟩, h.2⟩⟩

theorem einv_iff : EInv F Q e ↔ Inv F Q (fun _ => True) (List.range e.numFitted : List Nat) e :=
  (inv_range_iff.trans (and_iff_left trivial)).symm

theorem Inv.setCfg (h : Inv F Q I L e) (cfg' : Cfg) (hbf : 2 ≤ cfg'.bf) : Inv F Q I L { e with cfg := cfg' } :=
  ⟨hbf, h.ok, h.fF, h.part, h.cnt, h.q, h.tree⟩

theorem Inv.of_init (hI : I .uninit) (cfg : Cfg) (hbf : 2 ≤ cfg.bf) : Inv F Q I 0 (init cfg) :=
  ⟨hbf, trivial, fun _ h => (by cases h), rfl, rfl, fun _ h => (by cases h), hI⟩

theorem Inv.grow (hC : Carried pol Q I) (h : Inv F Q I L e)
    (hlo : e.st.isLeavesOnly = false) (us : List Clu) (hus : ∀ u ∈ us, u.ls.length = F ∧ Q u)
    (hm : MergeClosed pol Q e.cfg) :
    Inv F Q I (L + idsOf (us : Multiset Clu)) (e.grow (pol e.cfg) F us) := by
  obtain ⟨hok, _, hmc⟩ := insertAll_spec (pol e.cfg) (hC.valid _) (Nat.le_of_succ_le h.bf) F h.ok hlo us
  refine ⟨h.bf, hok, grow_F _ hlo h.fF us, ?_, ?_, ?_, ?_⟩
  · exact hmc.ids.trans (by rw [idsOf_add, h.part])
  · show e.numFitted + _ = _
    rw [Multiset.card_add, card_idsOf, h.cnt]; rfl
  · refine MC.forall _ (fun c s hc hs ha => ⟨merge_ls_length hc.1 hs.1, hm c s hc.2 hs.2 ha⟩) hmc ?_
    intro c hc
    rcases Multiset.mem_add.mp hc with hc | hc
    · exact h.q c hc
    · exact hus c hc
  · exact insertAll_keeps (pol e.cfg) e.cfg.bf F (hC.ins e.cfg F h.bf) e.st us h.tree
      fun u hu => (hus u hu).2

theorem Inv.rebuild (hC : Carried pol Q I) (cfg : Cfg) (hbf : 2 ≤ cfg.bf)
    (us : List Clu) (hus : ∀ u ∈ us, u.ls.length = F ∧ Q u) (hids : idsOf (us : Multiset Clu) = L)
    (hm : MergeClosed pol Q cfg) : Inv F Q I L ((init cfg).grow (pol cfg) F us) := by
  have := (Inv.of_init hC.uninit cfg hbf (F := F)).grow hC rfl us hus hm
  rwa [zero_add, hids] at this

theorem Inv.delInternal (hI : ∀ F ls, I (.leavesOnly F ls)) (h : Inv F Q I L e) :
    Inv F Q I L (delInternal e).1 := by
  have hl := delInternal_lclus h.ok
  rcases delInternal_cases e with h1 | ⟨F', h1⟩ <;> rw [h1] at hl ⊢
  · exact h
  · exact ⟨h.bf, trivial, fun _ h' => (by cases h'), by rw [← h.part, ← hl], h.cnt,
      by simpa only [hl] using h.q, hI _ _⟩

theorem Inv.refit_refined (hC : Carried pol Q I) (h : Inv F Q I L e) {k : Nat} {data : List Row} {im : Nat}
    {srt : Bool} (hdata : ∀ r ∈ data, r.length = F)
    (hqs : ∀ id r, im ≤ id → data[id - im]? = some r → Q (single r id)) (hm : MergeClosed pol Q e.cfg)
    {groups : List (W × List Clu)} (hg : refineGroups e.st.sortedClus k data im srt = .ok groups) :
    Inv F Q I L (e.reset.grow (pol e.cfg) F ((groups.flatMap (·.2)).map Clu.asUnit)) := by
  refine Inv.rebuild hC e.cfg h.bf _ ?_ (by rw [idsOf_map_asUnit, refineGroups_ids hg, sortedClus_coe h.ok, h.part]) hm
  intro u hu
  obtain ⟨c, hc, rfl⟩ := List.mem_map.mp hu
  obtain ⟨g, hg', hc⟩ := List.mem_flatMap.mp hc
  rcases refineGroups_mem hg hg' hc with hc | ⟨id, r, hle, hr, rfl⟩
  · have hq := h.q c ((TreeSt.mem_sortedClus h.ok).mp hc)
    exact ⟨hq.1, hC.unit c hq.2⟩
  · exact ⟨(single_ls_length r id).trans (hdata r (List.mem_of_getElem? hr)), hqs id r hle hr⟩

theorem Inv.round (hC : Carried pol Q I) (h : Inv F Q I L e) (extra : Rat) {us : List Clu}
    (hus : (us : Multiset Clu) = e.st.lclusM) (hm : MergeClosed pol Q { e.cfg with thr := fadd e.cfg.thr extra }) :
    Inv F Q I L (e.round pol F extra us) := by
  refine Inv.rebuild hC { e.cfg with thr := fadd e.cfg.thr extra } h.bf _ ?_
    (by rw [idsOf_map_asUnit, hus, h.part]) hm
  intro u hu
  obtain ⟨c, hc, rfl⟩ := List.mem_map.mp hu
  have := h.q c ((mem_of_coe_eq hus c).mp hc)
  exact ⟨this.1, hC.unit c this.2⟩

end Invariant

section Labels

/-! ### the labels a history inserts -/

variable (pol : Cfg → Policy)

/-- the labels one operation inserts in the state it meets; for a `fit`, how many of its rows is read off the
model: the increase of `numFitted` -/
def opLabels (e : Est) : Op → List Nat
  | .fit rows labels =>
    let k := (stepWith pol e (.fit rows labels)).1.numFitted - e.numFitted
    match labels with
    | none => List.range' e.numFitted k
    | some ls => ls.take k
  | _ => []

/-- the labels held after one operation -/
def stepLabels (L : List Nat) (e : Est) : Op → List Nat
  | .reset => []
  | op => L ++ opLabels pol e op

/-- `labelsOf` with an accumulator -/
def labelsAcc : List Nat → Est → List Op → List Nat
  | L, _, [] => L
  | L, e, op :: ops => labelsAcc (stepLabels pol L e op) (stepWith pol e op).1 ops

/-- the labels inserted along a history since the last `reset`, in insertion order -/
def labelsOf (e : Est) (ops : List Op) : List Nat := labelsAcc pol [] e ops

/-- labels are implicit (`fit(X)` without `reinsert_indices`) -/
def Op.Implicit (op : Op) : Prop := ∀ rows labels, op = .fit rows labels → labels = none

end Labels

section Step
variable (pol : Cfg → Policy)

/-! ### every operation keeps the invariant -/

/-- state-independent well-formedness of an operation for feature count `F`: rows of `F` features (for `fit`,
the first one) and capacities of at least 2; no condition on the labels -/
def Op.WFL (F : Nat) : Op → Prop
  | .fit rows _ => ∀ r0, rows.head? = some r0 → r0.length = F
  | .refine _ data _ _ => ∀ r ∈ data, r.length = F
  | .setMerge _ _ _ b => ∀ b', b = some b' → 2 ≤ b'
  | .setBf b => 2 ≤ b
  | _ => True

/-- the thresholds visited by `recluster_inplace` -/
def advThr (extra : Rat) (j : Nat) (thr : Rat) : Rat := (fun t => fadd t extra)^[j] thr

/-- the configurations under which an operation inserts -/
def visited (e : Est) : Op → List Cfg
  | .fit _ _ => [e.cfg]
  | .refine _ _ _ _ => [e.cfg]
  | .recluster it extra _ _ => (List.range it).map (fun j => { e.cfg with thr := advThr extra (j + 1) e.cfg.thr })
  | _ => []

/-- the units an operation brings in from outside -/
def Op.brings (F : Nat) (e : Est) : Op → Clu → Prop
  | .fit rows labels, u => e.st.isLeavesOnly = false ∧
      ∃ p ∈ fitLabelled e rows labels, p.2.length = F ∧ u = Clu.ofRow p.2 p.1
  | .refine _ data im _, u => ∃ id r, im ≤ id ∧ data[id - im]? = some r ∧ u = single r id
  | _, _ => False

/-- a unit brought in is the unit of a row of `F` features or the singleton of a row of the data -/
theorem Op.brings.cases {F : Nat} {e : Est} {op : Op} {u : Clu} {motive : Clu → Prop} (h : op.brings F e u)
    (row : ∀ r i, r.length = F → motive (Clu.ofRow r i)) (single : ∀ r id, motive (single r id)) : motive u := by
  cases op with
  | fit rows labels => obtain ⟨_, p, _, hl, rfl⟩ := h; exact row _ _ hl
  | refine n data im srt => obtain ⟨id, r, _, _, rfl⟩ := h; exact single r id
  | _ => exact False.elim h

theorem Op.brings_n {F : Nat} {e : Est} {op : Op} {u : Clu} (h : op.brings F e u) : u.n = 1 :=
  h.cases (motive := fun u => u.n = 1) (fun _ _ _ => rfl) (fun _ _ => rfl)

/-- side conditions of one operation for feature count `F` and cluster predicate `Q` -/
structure OpOK (F : Nat) (Q : Clu → Prop) (e : Est) (op : Op) : Prop where
  wf : op.WFL F
  units : ∀ u, op.brings F e u → Q u
  closed : ∀ cfg ∈ visited e op, MergeClosed pol Q cfg

/-- `A` holds of every operation of the history in the state it meets -/
def Along (A : Est → Op → Prop) : Est → List Op → Prop
  | _, [] => True
  | e, op :: ops => A e op ∧ Along A (stepWith pol e op).1 ops

variable {pol} {F : Nat} {Q : Clu → Prop} {I : TreeSt → Prop}

theorem opLabels_fit (e : Est) (rows : List Row) (labels : Option (List Nat)) (good : List (Nat × Row))
    (hpre : good <+: fitLabelled e rows labels)
    (hfit : (fit (pol e.cfg) e rows labels).1 = e.grow (pol e.cfg) F (good.map fun p => Clu.ofRow p.2 p.1)) :
    opLabels pol e (.fit rows labels) = good.map (·.1) := by
  have hk : (stepWith pol e (.fit rows labels)).1.numFitted - e.numFitted = good.length := by
    simp only [stepWith, hfit, grow_ofRow_numFitted, Nat.add_sub_cancel_left]
  cases labels with
  | none => simp only [opLabels, hk]; exact (prefix_zip_range' hpre).symm
  | some ls => simp only [opLabels, hk]; exact (prefix_zip_labels hpre).symm

/-- every case is `setCfg`, `delInternal`, `rebuild` (through `refit_refined`, `round`, `of_init`) or `grow` -/
theorem Inv.step (hC : Carried pol Q I) {L : List Nat} {e : Est} (h : Inv F Q I (L : Multiset Nat) e) {op : Op}
    (hop : OpOK pol F Q e op) :
    Inv F Q I (stepLabels pol L e op : List Nat) (stepWith pol e op).1 := by
  have hL : ((L ++ [] : List Nat) : Multiset Nat) = (L : Multiset Nat) := by simp
  have hbf : ∀ b : Option Nat, (∀ b', b = some b' → 2 ≤ b') → 2 ≤ b.getD e.cfg.bf := by
    rintro (_ | b') hb
    · exact h.bf
    · exact hb b' rfl
  cases op with
  | fit rows labels =>
    have hfit := fit_grow (pol e.cfg) F e rows labels fun r0 hr => h.fF.getD _ (hop.wf r0 hr)
    have hpre := fitGood_prefix F e rows labels
    simp only [stepLabels, opLabels_fit e rows labels _ hpre hfit, stepWith, hfit, ← Multiset.coe_add]
    cases hg : fitGood F e rows labels with
    | nil => simpa using h
    | cons p0 _ =>
      rw [← hg, ← idsOf_ofRow]
      refine h.grow hC (mem_fitGood (hg ▸ List.mem_cons_self)).2 _ ?_ (hop.closed _ (by simp [visited]))
      intro u hu
      obtain ⟨p, hp, rfl⟩ := List.mem_map.mp hu
      obtain ⟨hl, hlo⟩ := mem_fitGood hp
      exact ⟨(ofRow_ls_length _ _).trans hl, hop.units _ ⟨hlo, p, hpre.subset hp, hl, rfl⟩⟩
  | refine n data im srt =>
    simp only [stepLabels, opLabels, hL, stepWith]
    rcases refine_grow pol h.ok (fun c hc => (h.q c hc).1) n hop.wf im srt with
      h1 | h1 | ⟨groups, hg, h1⟩ <;> rw [h1]
    · exact h
    · exact h.delInternal hC.leaves
    · exact h.refit_refined hC hop.wf (fun id r hle hr => hop.units _ ⟨id, r, hle, hr, rfl⟩)
        (hop.closed _ (by simp [visited])) hg
  | recluster it extra perms stop =>
    simp only [stepLabels, opLabels, hL, stepWith]
    unfold recluster
    split
    · exact h
    · -- the configuration is carried along so that the one a round inserts under is found among `visited`
      refine (reclusterLoop_induct pol F extra stop it
        (R := fun j e1 => Inv F Q I (L : Multiset Nat) e1 ∧ e1.cfg = { e.cfg with thr := advThr extra j e.cfg.thr })
        (fun j e1 h1 => ⟨h1.1.ok, fun c hc => (h1.1.q c hc).1⟩) ?_ it perms 0 0 e (by omega) ⟨h, rfl⟩).elim
        fun _ hj => hj.1
      · intro j e1 us hjk ⟨h1, hc1⟩ hus
        have hcfg : ({ e1.cfg with thr := fadd e1.cfg.thr extra } : Cfg)
            = { e.cfg with thr := advThr extra (j + 1) e.cfg.thr } := by
          rw [hc1]; simp [advThr, Function.iterate_succ_apply']
        exact ⟨h1.round hC extra hus (by
          rw [hcfg]; exact hop.closed _ (List.mem_map.mpr ⟨j, List.mem_range.mpr hjk, rfl⟩)), hcfg⟩
  | setMerge c t th b =>
    simp only [stepLabels, opLabels, hL, stepWith, setMerge]
    split
    · exact h
    · exact h.setCfg _ (hbf b hop.wf)
  | setThr t =>
    simp only [stepLabels, opLabels, hL]
    exact h.setCfg _ h.bf
  | setBf b =>
    simp only [stepLabels, opLabels, hL]
    exact h.setCfg { e.cfg with bf := b } hop.wf
  | delInternal =>
    simp only [stepLabels, opLabels, hL]
    exact h.delInternal hC.leaves
  | reset => exact Inv.of_init hC.uninit e.cfg h.bf  -- `e.reset` is `init e.cfg`, by definition

theorem Along.mono {A B : Est → Op → Prop} (hAB : ∀ e op, A e op → B e op) :
    ∀ {ops : List Op} {e : Est}, Along pol A e ops → Along pol B e ops
  | [], _, _ => trivial
  | _ :: _, _, h => ⟨hAB _ _ h.1, h.2.mono hAB⟩

theorem Along.and {A B : Est → Op → Prop} : ∀ {ops : List Op} {e : Est}, Along pol A e ops →
    Along pol B e ops → Along pol (fun e op => A e op ∧ B e op) e ops
  | [], _, _, _ => trivial
  | _ :: _, _, h, h' => ⟨⟨h.1, h'.1⟩, h.2.and h'.2⟩

theorem along_const {B : Op → Prop} : ∀ {ops : List Op} (e : Est), (∀ op ∈ ops, B op) →
    Along pol (fun _ => B) e ops
  | [], _, _ => trivial
  | op :: _, _, h => ⟨h op (by simp), along_const _ fun o ho => h o (List.mem_cons_of_mem _ ho)⟩

theorem Inv.run (hC : Carried pol Q I) : ∀ {ops : List Op} {L : List Nat} {e : Est}, Inv F Q I (L : Multiset Nat) e →
      Along pol (OpOK pol F Q) e ops → Inv F Q I (labelsAcc pol L e ops : List Nat) (runWith pol e ops)
  | [], _, _, h, _ => h
  | _ :: _, _, _, h, hok => (h.step hC hok.1).run hC hok.2

end Step

section Implicit
variable {pol : Cfg → Policy} {F : Nat} {Q : Clu → Prop} {I : TreeSt → Prop}

/-! ### implicit labels: `EInv` -/

theorem carried_true (hpol : ∀ cfg, (pol cfg).Valid) (hunit : ∀ c, Q c → Q c.asUnit) : Carried pol Q (fun _ => True) :=
  ⟨hpol, hunit, trivial, fun _ _ _ _ _ _ _ _ _ => trivial, fun _ _ => trivial⟩

theorem stepLabels_range (e : Est) {op : Op} (hnone : op.Implicit)
    (hcnt : (stepWith pol e op).1.numFitted = (stepLabels pol (List.range e.numFitted) e op).length) :
    stepLabels pol (List.range e.numFitted) e op = List.range (stepWith pol e op).1.numFitted := by
  cases op with
  | fit rows labels =>
    obtain rfl := hnone rows labels rfl
    simp only [stepLabels, opLabels, List.length_append, List.length_range, List.length_range'] at hcnt ⊢
    obtain ⟨k, hk⟩ := Nat.exists_eq_add_of_le (show e.numFitted ≤ (stepWith pol e (.fit rows none)).1.numFitted by omega)
    rw [hk, Nat.add_sub_cancel_left, List.range_add, List.range'_eq_map_range]
  | reset => rfl
  | _ => simp only [stepLabels, opLabels, List.append_nil, List.length_range] at hcnt ⊢; rw [hcnt]

theorem EInv.step {e : Est} (h : EInv F Q e) (hpol : ∀ cfg, (pol cfg).Valid) (hunit : ∀ c, Q c → Q c.asUnit)
    {op : Op} (hop : OpOK pol F Q e op) (hnone : op.Implicit) : EInv F Q (stepWith pol e op).1 := by
  have := (einv_iff.mp h).step (carried_true hpol hunit) hop
  rw [stepLabels_range e hnone (by simpa using this.cnt)] at this
  exact einv_iff.mpr this

theorem labelsAcc_range (hC : Carried pol Q I) :
    ∀ {ops : List Op} {e : Est}, Inv F Q I (List.range e.numFitted : List Nat) e →
    Along pol (fun e op => OpOK pol F Q e op ∧ op.Implicit) e ops →
    labelsAcc pol (List.range e.numFitted) e ops = List.range (runWith pol e ops).numFitted
  | [], _, _, _ => rfl
  | op :: ops, e, hinv, hok => by
    have hs := hinv.step hC hok.1.1
    have key := stepLabels_range e hok.1.2 (by simpa using hs.cnt)
    simp only [runWith, List.foldl_cons, labelsAcc]
    rw [key] at hs ⊢
    exact labelsAcc_range hC hs hok.2

theorem Inv.run_implicit (hC : Carried pol Q I) {ops : List Op} {e : Est}
    (h : Inv F Q I (List.range e.numFitted : List Nat) e)
    (hok : Along pol (fun e op => OpOK pol F Q e op ∧ op.Implicit) e ops) :
    Inv F Q I (List.range (runWith pol e ops).numFitted : List Nat) (runWith pol e ops) := by
  have := h.run hC (hok.mono fun _ _ h => h.1)
  rwa [labelsAcc_range hC h hok] at this

theorem EInv.run {e : Est} (h : EInv F Q e) (hpol : ∀ cfg, (pol cfg).Valid) (hunit : ∀ c, Q c → Q c.asUnit)
    {ops : List Op} (hok : Along pol (fun e op => OpOK pol F Q e op ∧ op.Implicit) e ops) :
    EInv F Q (runWith pol e ops) :=
  einv_iff.mpr ((einv_iff.mp h).run_implicit (carried_true hpol hunit) hok)

theorem EInv.init (F : Nat) (Q : Clu → Prop) (cfg : Cfg) (h : 2 ≤ cfg.bf) : EInv F Q (init cfg) :=
  einv_iff.mpr (Inv.of_init trivial cfg h)

theorem EInv.delInternal {e : Est} (h : EInv F Q e) : EInv F Q (BB.delInternal e).1 := by
  have := (einv_iff.mp h).delInternal fun _ _ => trivial
  rw [← delInternal_numFitted e] at this
  exact einv_iff.mpr this

theorem EInv.id_lt {e : Est} (h : EInv F Q e) {c : Clu} (hc : c ∈ e.st.lclusM)
    {i : Nat} (hi : i ∈ c.ids) : i < e.numFitted := by
  have := mem_idsOf_iff.mpr ⟨c, hc, hi⟩
  rw [h.part] at this
  simpa using this

theorem EInv.q_sortedClus {e : Est} (h : EInv F Q e) : ∀ c ∈ e.st.sortedClus, Q c :=
  fun c hc => h.q c ((TreeSt.mem_sortedClus h.ok).mp hc)

theorem EInv.q_leafClus {e : Est} (h : EInv F Q e) : ∀ c ∈ e.st.leafClus, Q c :=
  fun c hc => h.q c ((TreeSt.mem_leafClus h.ok).mp hc)

/-- the way out of the invariant for a cluster predicate `Q`: if units of one member satisfy it, turning a cluster
into a unit keeps it, and the merges accepted under the configurations `G` keep it, then it holds of every cluster
after a history from `init cfg` all of whose insertions happen under configurations in `G` -/
theorem EInv.of_history (hpol : ∀ cfg, (pol cfg).Valid) (hunit : ∀ c, Q c → Q c.asUnit) (hone : ∀ c : Clu, c.n = 1 → Q c)
    {G : Cfg → Prop} (hm : ∀ cfg', G cfg' → MergeClosed pol Q cfg') {cfg : Cfg} (hbf : 2 ≤ cfg.bf) {ops : List Op}
    (hops : Along pol (fun e op => (op.WFL F ∧ op.Implicit) ∧ ∀ cfg' ∈ visited e op, G cfg') (BB.init cfg) ops) :
    EInv F Q (runWith pol (BB.init cfg) ops) :=
  (EInv.init F Q cfg hbf).run hpol hunit (hops.mono fun _ _ h =>
    ⟨⟨h.1.1, fun u hu => hone u (Op.brings_n hu), fun c hc => hm c (h.2 c hc)⟩, h.1.2⟩)

theorem isInit_of_ids {st : TreeSt} (h : idsOf st.lclusM ≠ 0) : st.isInit = true := by
  cases st with
  | uninit => exact absurd (by simp [TreeSt.lclusM]) h
  | leavesOnly F' ls => rfl
  | full hh F' root chain next => rfl

theorem EInv.isInit_of_pos {e : Est} (h : EInv F Q e) (hn : 0 < e.numFitted) :
    e.st.isInit = true := by
  apply isInit_of_ids
  rw [h.part]
  intro h0
  have := congrArg Multiset.card h0
  simp at this
  omega

theorem clusters_labels {I : TreeSt → Prop} {L : Multiset Nat} {e : Est} (hinv : Inv F Q I L e) (sort : Bool) :
    (((e.clusters sort).flatten : List Nat) : Multiset Nat) = L := by
  have hl : ((if sort then e.st.sortedClus else e.st.leafClus : List Clu) : Multiset Clu) = e.st.lclusM := by
    cases sort
    · simpa using TreeSt.leafClus_coe hinv.ok
    · simpa using sortedClus_coe hinv.ok
  unfold Est.clusters
  rw [← idsOf_eq_flatten, hl, hinv.part]

theorem clusters_perm {e : Est} (hinv : EInv F Q e) (sort : Bool) :
    (e.clusters sort).flatten.Perm (List.range e.numFitted) :=
  Multiset.coe_eq_coe.mp (clusters_labels (einv_iff.mp hinv) sort)

end Implicit

section History
variable {pol : Cfg → Policy}

/-! ### the labels along a history -/

/-- the invariant without predicates: the labels held are `L` -/
abbrev LInv (F : Nat) (L : Multiset Nat) (e : Est) : Prop := Inv F (fun _ => True) (fun _ => True) L e

theorem opOK_true {F : Nat} (e : Est) (op : Op) (h : op.WFL F) : OpOK pol F (fun _ => True) e op :=
  ⟨h, fun _ _ => trivial, fun _ _ _ _ _ _ _ => trivial⟩

theorem opLabels_fit_all (F : Nat) (e : Est) (hF : e.st.HasF F) (rows : List Row)
    (ls : List Nat) (hrows : ∀ r ∈ rows, r.length = F) (hlo : e.st.isLeavesOnly = false) :
    opLabels pol e (.fit rows (some ls)) = ls.take rows.length := by
  have hfit := fit_grow (pol e.cfg) F e rows (some ls) fun r0 hr => hF.getD _ (hrows r0 (List.mem_of_mem_head? hr))
  rw [opLabels_fit e rows (some ls) _ (fitGood_prefix F e rows (some ls)) hfit]
  rw [fitGood_all (some ls) hlo hrows, fitLabelled, prefix_zip_labels (List.prefix_refl (ls.zip rows))]
  simp [List.length_zip, Nat.min_comm]

end History

section Append
variable (pol : Cfg → Policy)

theorem runWith_append (e : Est) (ops ops' : List Op) :
    runWith pol e (ops ++ ops') = runWith pol (runWith pol e ops) ops' := by
  simp [runWith, List.foldl_append]

theorem labelsAcc_append : ∀ (ops ops' : List Op) (L : List Nat) (e : Est),
    labelsAcc pol L e (ops ++ ops') = labelsAcc pol (labelsAcc pol L e ops) (runWith pol e ops) ops'
  | [], _, _, _ => rfl
  | op :: ops, ops', L, e => by
    simp only [List.cons_append, labelsAcc, runWith, List.foldl_cons]
    exact labelsAcc_append ops ops' _ _

theorem labelsOf_snoc (e : Est) (ops : List Op) (op : Op) :
    labelsOf pol e (ops ++ [op]) = stepLabels pol (labelsOf pol e ops) (runWith pol e ops) op := by
  simp only [labelsOf, labelsAcc_append, labelsAcc]

theorem labelsOf_reset (e : Est) (ops ops' : List Op) :
    labelsOf pol e (ops ++ .reset :: ops') = labelsOf pol (init (runWith pol e ops).cfg) ops' := by
  simp only [labelsOf, labelsAcc_append, labelsAcc, stepLabels]
  rfl

end Append

section Coarsening
variable {pol : Cfg → Policy} {F : Nat}

/-! ### re-insertion only coarsens -/

/-- every cluster of `A` is contained in one cluster of `B` -/
def Coarsens (A B : Multiset Clu) : Prop := ∀ a ∈ A, ∃ b ∈ B, ∀ i ∈ a.ids, i ∈ b.ids

theorem Coarsens.refl (A : Multiset Clu) : Coarsens A A := fun a ha => ⟨a, ha, fun _ h => h⟩

theorem Coarsens.trans {A B C : Multiset Clu} (h1 : Coarsens A B) (h2 : Coarsens B C) : Coarsens A C := by
  intro a ha
  obtain ⟨b, hb, hab⟩ := h1 a ha
  obtain ⟨c, hc, hbc⟩ := h2 b hb
  exact ⟨c, hc, fun i hi => hbc i (hab i hi)⟩

theorem Coarsens.mono {A A' B : Multiset Clu} (hs : ∀ a ∈ A', a ∈ A) (h : Coarsens A B) : Coarsens A' B :=
  fun a ha => h a (hs a ha)

theorem coarsens_of_units {acc : Clu → Clu → Prop} (l : List Clu) (N : Multiset Clu)
    (h : MC acc ((l.map Clu.asUnit : List Clu) : Multiset Clu) N) : Coarsens (l : Multiset Clu) N := by
  intro a ha
  have : a.asUnit ∈ ((l.map Clu.asUnit : List Clu) : Multiset Clu) := List.mem_map_of_mem (Multiset.mem_coe.mp ha)
  obtain ⟨b, hb, hab⟩ := h.coarsens _ this
  exact ⟨b, hb, hab⟩

theorem rebuilt_coarsens (hpol : ∀ cfg, (pol cfg).Valid) (cfg : Cfg) (hbf : 2 ≤ cfg.bf) (us : List Clu) :
    Coarsens (us : Multiset Clu)
      ((init cfg).grow (pol cfg) F (us.map Clu.asUnit)).st.lclusM := by
  have := (insertAll_spec (pol cfg) (hpol _) (Nat.le_of_succ_le hbf) F (st := .uninit) trivial rfl (us.map Clu.asUnit)).2.2
  rw [show TreeSt.uninit.lclusM = 0 from rfl, zero_add] at this
  exact coarsens_of_units _ _ this

theorem recluster_coarsens (hpol : ∀ cfg, (pol cfg).Valid) {e : Est} (hinv : EInv F (fun _ => True) e)
    (iters : Nat) (extra : Rat) (perms : List (Option (List Nat))) (stop : Bool) :
    Coarsens e.st.lclusM (recluster pol e iters extra perms stop).1.st.lclusM := by
  unfold recluster
  split
  · exact Coarsens.refl _
  · -- the invariant goes through the rounds (`Inv.round`); each round coarsens
    refine (reclusterLoop_induct pol F extra stop iters
      (R := fun _ e1 => LInv F (List.range e.numFitted : List Nat) e1 ∧ Coarsens e.st.lclusM e1.st.lclusM)
      (fun _ _ h1 => ⟨h1.1.ok, fun c hc => (h1.1.q c hc).1⟩) ?_ iters perms 0 0 e (by omega)
      ⟨einv_iff.mp hinv, Coarsens.refl _⟩).elim fun _ hj => hj.2
    intro j e1 us _ ⟨h1, hco⟩ hus
    exact ⟨h1.round (carried_true hpol fun _ _ => trivial) extra hus (fun _ _ _ _ _ => trivial),
      hco.trans (hus ▸ rebuilt_coarsens hpol { e1.cfg with thr := fadd e1.cfg.thr extra } h1.bf us)⟩

theorem refine_coarsens (hpol : ∀ cfg, (pol cfg).Valid) {e : Est} (hinv : EInv F (fun _ => True) e)
    (n : Int) (data : List Row) (im : Nat) (srt : Bool) (hdata : ∀ r ∈ data, r.length = F) :
    Coarsens ((e.st.sortedClus.drop n.toNat : List Clu) : Multiset Clu) (refine pol e n data im srt).1.st.lclusM := by
  have hkeep : Coarsens ((e.st.sortedClus.drop n.toNat : List Clu) : Multiset Clu) e.st.lclusM := fun a ha =>
    ⟨a, (TreeSt.mem_sortedClus hinv.ok).mp (List.mem_of_mem_drop ha), fun _ h => h⟩
  rcases refine_grow pol hinv.ok hinv.lsLen n hdata im srt with
    h1 | h1 | ⟨groups, hg, h1⟩ <;> rw [h1]
  · exact hkeep
  · rw [delInternal_lclus hinv.ok]; exact hkeep
  · obtain ⟨_, singles, hflat, _⟩ := refineGroups_spec hg
    exact Coarsens.mono (fun a ha => (mem_of_coe_eq hflat a).mpr (Multiset.mem_add.mpr (Or.inl ha)))
      (rebuilt_coarsens hpol e.cfg hinv.bf _)

end Coarsening

end BB
