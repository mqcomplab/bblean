/-
GenEq7 — the body of the `while True:` loop of `_memory.monitor_rss_process`, as translated, performs on the
peak file exactly the model's `updateOps .rename v` when the sample exceeds the running maximum and nothing otherwise;
iterating it over a sample sequence yields the model's `writerOps .rename`.

The translation records the file effects of one iteration as a flat token list (`open p mode`, `write p parts…`,
`flush p`, `fsync p`, `close p`, `os.replace a b`) followed by the new running maximum.  `decode` reads the tokens that
concern `max-rss.txt` / `max-rss.txt.tmp` as the writer effects `WOp` of `BBModel/Monitor.lean`; the csv log (`file`,
opened in append mode) is not a peak file and is skipped, and `flush`/`fsync`/`close` have no effect a reader can see.
`total_rss()` (a closure over psutil), the clock and `_BYTES_TO_GIB` are inputs.
-/
import BBProofs.GenEq
import BBModel.Monitor

namespace BB
open PV BB.Mon

/-- the writer effects on the two peak-file names under `parent` that a flat effect-token list stands for; `key` names the
value written (the first part of the written text).  Every record starts with its tag, which fixes its length (`write`
carries the number of parts).  A `write` of a peak file is (pessimistically) two effects: an incomplete prefix, then the
full text.  An `open(final, "w")` would be the truncating protocol's `openFinal`.  An unknown tag ends the decoding. -/
def decodeEff (key : PV → Nat) (parent : String) (l : List PV) : List WOp :=
  match l with
  | PV.str "open" :: PV.str p :: PV.str m :: rest =>
    if m = "w" ∧ p = parent ++ "/" ++ "max-rss.txt.tmp" then WOp.openTmp :: decodeEff key parent rest
    else if m = "w" ∧ p = parent ++ "/" ++ "max-rss.txt" then WOp.openFinal :: decodeEff key parent rest
    else decodeEff key parent rest
  | PV.str "write" :: PV.str p :: PV.int k :: v :: rest =>
    if p = parent ++ "/" ++ "max-rss.txt.tmp" ∨ p = parent ++ "/" ++ "max-rss.txt" then
      WOp.writePartial :: WOp.writeFull (key v) :: decodeEff key parent (rest.drop (k.toNat - 1))
    else decodeEff key parent (rest.drop (k.toNat - 1))
  | PV.str "flush" :: _ :: rest => decodeEff key parent rest
  | PV.str "fsync" :: _ :: rest => decodeEff key parent rest
  | PV.str "close" :: _ :: rest => decodeEff key parent rest
  | PV.str "os.replace" :: PV.str a :: PV.str b :: rest =>
    if a = parent ++ "/" ++ "max-rss.txt.tmp" ∧ b = parent ++ "/" ++ "max-rss.txt" then
      WOp.renameTmp :: decodeEff key parent rest
    else decodeEff key parent rest
  | _ => []
termination_by l.length
decreasing_by all_goals (simp only [List.length_cons, List.length_drop]; omega)

/-- the peak-file tokens of one update with value `v` (rename protocol) -/
def peakTokens (parent : String) (v : PV) : List PV :=
  [PV.str "open", PV.str (parent ++ "/" ++ "max-rss.txt.tmp"), PV.str "w",
   PV.str "write", PV.str (parent ++ "/" ++ "max-rss.txt.tmp"), PV.int 2, v, PV.str "\n",
   PV.str "flush", PV.str (parent ++ "/" ++ "max-rss.txt.tmp"),
   PV.str "fsync", PV.str (parent ++ "/" ++ "max-rss.txt.tmp"),
   PV.str "close", PV.str (parent ++ "/" ++ "max-rss.txt.tmp"),
   PV.str "os.replace", PV.str (parent ++ "/" ++ "max-rss.txt.tmp"), PV.str (parent ++ "/" ++ "max-rss.txt")]

/-- the csv-log tokens of one iteration -/
def csvTokens (s t : PV) : List PV :=
  [PV.str "open", PV.str "file", PV.str "a",
   PV.str "write", PV.str "file", PV.int 4, s, PV.str ",", t, PV.str "\n",
   PV.str "flush", PV.str "file", PV.str "fsync", PV.str "file", PV.str "close", PV.str "file"]

/-- one iteration with a sample `s` above the running maximum `m` -/
theorem gen_monitor_loop_update (expf : Rat → Rat) (m s : Rat) (st iv bg clk raw : PV) (parent : String)
    (hs : PV.mul raw bg = PV.flt (some s)) (h : m < s) :
    BBGen.monitor_rss_process_loop expf (PV.flt (some m)) st iv bg (PV.str parent) clk raw
      = csvTokens (PV.flt (some s)) (PV.sub clk st) ++ peakTokens parent (PV.flt (some s)) ++ [PV.flt (some s)] := by
  simp only [BBGen.monitor_rss_process_loop, hs, gt_flt_flt, h, pv, csvTokens, peakTokens]

/-- one iteration with a sample not above the running maximum, or NaN -/
theorem gen_monitor_loop_keep (expf : Rat → Rat) (m : Rat) (s : Option Rat) (st iv bg clk raw : PV) (parent : String)
    (hs : PV.mul raw bg = PV.flt s) (h : ∀ x, s = some x → x ≤ m) :
    BBGen.monitor_rss_process_loop expf (PV.flt (some m)) st iv bg (PV.str parent) clk raw
      = csvTokens (PV.flt s) (PV.sub clk st) ++ [PV.flt (some m)] := by
  cases s with
  | none => simp only [BBGen.monitor_rss_process_loop, hs, gt_flt_flt, fcmp_none_left, iteL_bool, Bool.false_eq_true, if_false]; rfl
  | some x =>
    simp only [BBGen.monitor_rss_process_loop, hs, gt_flt_flt, fcmp_some_some, not_lt.mpr (h x rfl), decide_false, iteL_bool,
      Bool.false_eq_true, if_false]
    rfl

/-- the token that stands for the csv log is not a path below `parent` -/
theorem csvName_ne_path (parent x : String) : "file" ≠ parent ++ "/" ++ x :=
  ne_path_of_no_slash (by decide) parent x

theorem decode_csv (key : PV → Nat) (parent : String) (s t : PV) (rest : List PV) :
    decodeEff key parent (csvTokens s t ++ rest) = decodeEff key parent rest := by
  simp [csvTokens, decodeEff, csvName_ne_path]

theorem decode_peak (key : PV → Nat) (parent : String) (v : PV) (rest : List PV) :
    decodeEff key parent (peakTokens parent v ++ rest) = updateOps .rename (key v) ++ decodeEff key parent rest := by
  simp [peakTokens, decodeEff, updateOps]

/-- the effects of the loop over a sequence of iterations (each with its raw sample and clock reading), from the running
maximum `m`: every iteration is the generated loop body; its last output is the next running maximum -/
def monitorRun (expf : Rat → Rat) (st iv bg parent : PV) : PV → List (PV × PV) → List PV
  | _, [] => []
  | m, (raw, clk) :: rest =>
    let out := BBGen.monitor_rss_process_loop expf m st iv bg parent clk raw
    out.dropLast ++ monitorRun expf st iv bg parent (out.getLastD m) rest

/-- the strict running maxima of a rational sample list above `m` (the model's `maxima`, over the floats' values) -/
def maximaR : Rat → List Rat → List Rat
  | _, [] => []
  | m, s :: ss => if m < s then s :: maximaR s ss else maximaR m ss

/-- the value key: position of a float among the naturals through `k` -/
def keyOf (k : Rat → Nat) : PV → Nat
  | PV.flt (some s) => k s
  | _ => 0

/-- iteration `i` reads a raw value whose product with `_BYTES_TO_GIB` is the float `ss[i]` -/
theorem gen_monitor_run (expf : Rat → Rat) (k : Rat → Nat) (st iv bg : PV) (parent : String)
    (its : List (PV × PV)) (ss : List Rat)
    (hs : List.Forall₂ (fun it s => PV.mul it.1 bg = PV.flt (some s)) its ss) :
    ∀ m : Rat,
      decodeEff (keyOf k) parent (monitorRun expf st iv bg (PV.str parent) (PV.flt (some m)) its)
        = (maximaR m ss).flatMap (fun s => updateOps .rename (k s)) := by
  induction hs with
  | nil => intro m; simp [monitorRun, maximaR, decodeEff]
  | @cons it s its ss h0 _ ih =>
      intro m
      obtain ⟨raw, clk⟩ := it
      have h0 : PV.mul raw bg = PV.flt (some s) := h0
      by_cases hms : m < s
      · have hb := gen_monitor_loop_update expf m s st iv bg clk raw parent h0 hms
        simp only [monitorRun, hb, maximaR, hms, if_true, List.dropLast_concat, List.getLastD_concat]
        rw [List.append_assoc, decode_csv, decode_peak, ih s]
        simp [keyOf]
      · have hb := gen_monitor_loop_keep expf m (some s) st iv bg clk raw parent h0
          (by intro x hx; cases hx; exact not_lt.mp hms)
        simp only [monitorRun, hb, maximaR, hms, if_false, List.dropLast_concat, List.getLastD_concat]
        rw [decode_csv, ih m]

/-- an order embedding of a set `S` of values carries the rational running maxima within `S` to the model's -/
theorem maximaR_map (k : Rat → Nat) (S : List Rat) (hk : ∀ a b, a ∈ S → b ∈ S → (a < b ↔ k a < k b)) :
    ∀ (ss : List Rat) (m : Rat), m ∈ S → (∀ s ∈ ss, s ∈ S) → (maximaR m ss).map k = maxima (k m) (ss.map k) := by
  intro ss
  induction ss with
  | nil => intros; rfl
  | cons s ss ih =>
    intro m hm hss
    have hs := hss s List.mem_cons_self
    have hss' := fun x hx => hss x (List.mem_cons_of_mem _ hx)
    simp only [maximaR, List.map_cons, maxima, hk m s hm hs]
    split_ifs
    · rw [List.map_cons, ih s hs hss']
    · exact ih m hm hss'

/-- rank of `s` among the values `univ`: how many distinct members are smaller -/
def rank (univ : List Rat) (s : Rat) : Nat := (univ.dedup.filter (· < s)).length

theorem rank_lt_iff (univ : List Rat) (a b : Rat) (ha : a ∈ univ) (_hb : b ∈ univ) :
    a < b ↔ rank univ a < rank univ b := by
  -- the members below `x` are among the members below `y ≥ x`
  have hsub : ∀ {x y : Rat}, x ≤ y → (univ.dedup.filter (· < x)).Sublist (univ.dedup.filter (· < y)) :=
    fun h => List.monotone_filter_right _ (fun z hz => by simpa using lt_of_lt_of_le (by simpa using hz) h)
  constructor
  · intro h
    refine lt_of_le_of_ne (hsub h.le).length_le (fun e => ?_)
    -- `a` itself is below `b` but not below `a`
    have hmem : a ∈ univ.dedup.filter (· < b) := List.mem_filter.2 ⟨List.mem_dedup.2 ha, by simpa using h⟩
    rw [← (hsub h.le).eq_of_length e] at hmem
    simpa using (List.mem_filter.1 hmem).2
  · intro h
    by_contra hn
    exact absurd (hsub (not_lt.1 hn)).length_le (not_le.2 h)

/-- the generated loop body, run from the generated initial state over any finite sequence of iterations whose samples
(raw value × `_BYTES_TO_GIB`, as floats) are the non-negative `ss`, does to `max-rss.txt` / `max-rss.txt.tmp` what
`writerOps .rename` does with the samples' ranks, so every theorem about `run .rename` (C20) is one about this code -/
theorem gen_monitor_writer (expf : Rat → Rat) (st iv bg : PV) (parent : String)
    (its : List (PV × PV)) (ss : List Rat)
    (hs : List.Forall₂ (fun it s => PV.mul it.1 bg = PV.flt (some s)) its ss)
    (hpos : ∀ s ∈ ss, 0 ≤ s) :
    decodeEff (keyOf (rank (0 :: ss))) parent
        (monitorRun expf st iv bg (PV.str parent) (BBGen.monitor_rss_process_loop_init.headD PV.pynone) its)
      = writerOps .rename (ss.map (rank (0 :: ss))) := by
  have hinit : BBGen.monitor_rss_process_loop_init.headD PV.pynone = PV.flt (some 0) := by
    simp [BBGen.monitor_rss_process_loop_init]
  rw [hinit, gen_monitor_run expf (rank (0 :: ss)) st iv bg parent its ss hs 0]
  have hk := maximaR_map (rank (0 :: ss)) (0 :: ss) (rank_lt_iff (0 :: ss)) ss 0 List.mem_cons_self
    (fun _ => List.mem_cons_of_mem _)
  have h0 : rank (0 :: ss) 0 = 0 := by
    unfold rank
    rw [List.length_eq_zero_iff, List.filter_eq_nil_iff]
    intro x hx
    have hx' := List.mem_dedup.mp hx
    rcases List.mem_cons.mp hx' with h | h
    · simp [h]
    · simpa using hpos x h
  unfold writerOps
  rw [← h0, ← hk, List.flatMap_map]
