/-
Proofs about the executable binary64 rounding model `BB.rnd` (BBModel/Fl.lean).

`rne t` is the nearest integer to `t`, ties to even: the floor or the next integer according to the
fractional part (`rne_cases`), hence within 1/2 of `t` (`rne_err`), hence monotone (`rne_mono`).
Rounding to a grid of spacing `u` is `rgrid u x = rne (x / u) * u`, and every fact about `rgrid` is the
fact about `rne` scaled by `u`.
The specification `rndPosS` rounds to the grid of spacing `2^(Int.log 2 x - 52)`; the executable
`rndPos p q` is shown equal to `rndPosS (p/q)`, and all properties are transported.
-/
import Mathlib.Algebra.Order.Floor.Ring
import Mathlib.Algebra.Order.Field.Basic
import Mathlib.Data.Rat.Floor
import Mathlib.Algebra.Order.Field.Power
import Mathlib.Data.Int.Log
import Mathlib.Data.Nat.Log
import Mathlib.Tactic.Linarith
import Mathlib.Tactic.Ring
import Mathlib.Tactic.Positivity
import Mathlib.Tactic.FieldSimp
import BBModel.Fl
import BBProofs.Rounding

namespace BB

/-- round x to a multiple of u (u>0), nearest, ties to even multiple -/
def rgrid (u x : ℚ) : ℚ :=
  let k := ⌊x / u⌋
  let r := x / u - k
  if r < 1/2 then k * u
  else if r > 1/2 then (k + 1) * u
  else if k % 2 = 0 then k * u else (k + 1) * u

def rne (t : ℚ) : ℤ :=
  if t - ⌊t⌋ < 1/2 then ⌊t⌋
  else if t - ⌊t⌋ > 1/2 then ⌊t⌋ + 1
  else if ⌊t⌋ % 2 = 0 then ⌊t⌋ else ⌊t⌋ + 1

theorem rgrid_eq (u x : ℚ) : rgrid u x = rne (x / u) * u := by
  unfold rgrid rne
  simp only [apply_ite (fun z : ℤ => (z : ℚ) * u), Int.cast_add, Int.cast_one]

theorem rne_cases (t : ℚ) :
    (rne t = ⌊t⌋ ∧ Int.fract t ≤ 1 / 2) ∨ (rne t = ⌊t⌋ + 1 ∧ 1 / 2 ≤ Int.fract t) := by
  unfold rne
  split_ifs with a b
  · exact .inl ⟨rfl, a.le⟩
  · exact .inr ⟨rfl, b.le⟩
  · exact .inl ⟨rfl, not_lt.mp b⟩
  · exact .inr ⟨rfl, not_lt.mp a⟩

theorem floor_le_rne (t : ℚ) : ⌊t⌋ ≤ rne t := by
  rcases rne_cases t with ⟨e, _⟩ | ⟨e, _⟩ <;> omega

theorem rne_le_floor_add_one (t : ℚ) : rne t ≤ ⌊t⌋ + 1 := by
  rcases rne_cases t with ⟨e, _⟩ | ⟨e, _⟩ <;> omega

theorem rne_err (t : ℚ) : |(rne t : ℚ) - t| ≤ 1 / 2 := by
  rcases rne_cases t with ⟨e, h⟩ | ⟨e, h⟩
  · rwa [e, abs_sub_comm, Int.self_sub_floor, abs_of_nonneg (Int.fract_nonneg t)]
  · rw [e, Int.cast_add, Int.cast_one, add_sub_right_comm, ← neg_sub t, Int.self_sub_floor, neg_add_eq_sub,
      abs_of_nonneg (sub_nonneg.mpr (Int.fract_lt_one t).le), sub_le_comm]
    exact le_trans (by norm_num) h

/-- an integer-valued function within 1/2 of its argument is monotone -/
theorem rne_mono {s t : ℚ} (h : s ≤ t) : rne s ≤ rne t := by
  rcases h.lt_or_eq with h | rfl
  · have h1 : (rne s : ℚ) ≤ s + 1 / 2 := sub_le_iff_le_add'.mp (abs_le.mp (rne_err s)).2
    have h2 : t ≤ rne t + 1 / 2 := neg_le_sub_iff_le_add.mp (abs_le.mp (rne_err t)).1
    have : (rne s : ℚ) < rne t + 1 :=
      calc (rne s : ℚ) ≤ s + 1 / 2 := h1
        _ < t + 1 / 2 := (add_lt_add_iff_right _).mpr h
        _ ≤ rne t + 1 / 2 + 1 / 2 := (add_le_add_iff_right _).mpr h2
        _ = rne t + 1 := by rw [add_assoc, add_halves]
    exact Int.lt_add_one_iff.mp (by exact_mod_cast this)
  · rfl

theorem rne_intCast (m : ℤ) : rne m = m := by
  unfold rne; rw [Int.floor_intCast, sub_self, if_pos (by norm_num)]

theorem rne_natCast_div (n d : ℕ) (hd : 0 < d) :
    rne ((n:ℚ) / d) = ((if 2 * (n % d) > d then n / d + 1
        else if 2 * (n % d) = d then (if (n / d) % 2 = 1 then n / d + 1 else n / d)
        else n / d : ℕ) : ℤ) := by
  have hd' : (0:ℚ) < d := Nat.cast_pos.mpr hd
  have hfl : ⌊(n:ℚ) / d⌋ = ((n / d : ℕ) : ℤ) := by rw [Rat.floor_natCast_div_natCast]; rfl
  have hfr : (n:ℚ) / d - ⌊(n:ℚ) / d⌋ = ((n % d : ℕ) : ℚ) / d := Int.fract_div_natCast_eq_div_natCast_mod
  unfold rne
  rw [hfr, hfl]
  generalize n / d = k
  generalize n % d = r
  have hlt : (r : ℚ) / d < 1 / 2 ↔ 2 * r < d := by
    rw [div_lt_div_iff₀ hd' two_pos, one_mul, mul_comm, ← Nat.cast_ofNat (R := ℚ), ← Nat.cast_mul, Nat.cast_lt]
  have hgt : (r : ℚ) / d > 1 / 2 ↔ d < 2 * r := by
    rw [gt_iff_lt, div_lt_div_iff₀ two_pos hd', one_mul, mul_comm, ← Nat.cast_ofNat (R := ℚ), ← Nat.cast_mul,
      Nat.cast_lt]
  simp only [hlt, hgt, gt_iff_lt]
  rcases lt_trichotomy (2 * r) d with h | h | h
  · simp only [h, not_lt.mpr h.le, h.ne, if_true, if_false]
  · subst h
    simp only [lt_self_iff_false, if_false, if_true]
    split_ifs <;> omega
  · simp only [h, not_lt.mpr h.le, if_true, if_false, Nat.cast_succ]

theorem rgrid_lower (u x : ℚ) (hu : 0 < u) : (⌊x / u⌋ : ℚ) * u ≤ rgrid u x := by
  rw [rgrid_eq]
  exact mul_le_mul_of_nonneg_right (Int.cast_le.mpr (floor_le_rne _)) hu.le

theorem rgrid_upper (u x : ℚ) (hu : 0 < u) : rgrid u x ≤ (⌊x / u⌋ + 1 : ℚ) * u := by
  rw [rgrid_eq]
  exact mul_le_mul_of_nonneg_right (by exact_mod_cast rne_le_floor_add_one _) hu.le

theorem rgrid_mono (u : ℚ) (hu : 0 < u) {x y : ℚ} (h : x ≤ y) : rgrid u x ≤ rgrid u y := by
  rw [rgrid_eq, rgrid_eq]
  exact mul_le_mul_of_nonneg_right
    (Int.cast_le.mpr (rne_mono (div_le_div_of_nonneg_right h hu.le))) hu.le

theorem rgrid_fix (u : ℚ) (hu : 0 < u) (m : ℤ) : rgrid u (m * u) = m * u := by
  rw [rgrid_eq, mul_div_assoc, div_self hu.ne', mul_one, rne_intCast]

theorem rgrid_half (u x : ℚ) : rgrid (u / 2) (x / 2) = rgrid u x / 2 := by
  rw [rgrid_eq, rgrid_eq, div_div_div_cancel_right₀ (by norm_num), mul_div_assoc]

theorem rgrid_err (u x : ℚ) (hu : 0 < u) : |rgrid u x - x| ≤ u / 2 := by
  have e : rgrid u x - x = ((rne (x / u) : ℚ) - x / u) * u := by
    rw [rgrid_eq, sub_mul, div_mul_cancel₀ x hu.ne']
  rw [e, abs_mul, abs_of_pos hu]
  exact (mul_le_mul_of_nonneg_right (rne_err _) hu.le).trans_eq (one_div_mul_eq_div 2 u)

theorem two_zpow_pos (e : ℤ) : (0:ℚ) < 2 ^ e := zpow_pos two_pos e

theorem two_zpow_add (e : ℤ) (k : ℕ) : (2:ℚ) ^ (e + k) = ((2 ^ k : ℤ) : ℚ) * 2 ^ e := by
  rw [zpow_add₀ (by norm_num), zpow_natCast, mul_comm]; norm_cast

theorem two_zpow_toNat {s : ℤ} (hs : 0 ≤ s) : ((2 ^ s.toNat : ℕ) : ℚ) = 2 ^ s := by
  rw [Nat.cast_pow, Nat.cast_ofNat, ← zpow_natCast, Int.toNat_of_nonneg hs]

noncomputable def rndPosS (x : ℚ) : ℚ := rgrid ((2:ℚ) ^ (Int.log 2 x - 52)) x

theorem two_zpow_grid (e : ℤ) : (2:ℚ) ^ e = ((2 ^ 52 : ℤ) : ℚ) * 2 ^ (e - 52) ∧
    (2:ℚ) ^ (e + 1) = ((2 ^ 53 : ℤ) : ℚ) * 2 ^ (e - 52) := by
  constructor <;> (rw [← two_zpow_add]; congr 1; omega)

theorem rgrid_between {u x : ℚ} (hu : 0 < u) {a b : ℤ} (h1 : a * u ≤ x) (h2 : x ≤ b * u) :
    a * u ≤ rgrid u x ∧ rgrid u x ≤ b * u :=
  ⟨rgrid_fix u hu a ▸ rgrid_mono u hu h1, rgrid_fix u hu b ▸ rgrid_mono u hu h2⟩

theorem log2_bounds {x : ℚ} (hx : 0 < x) :
    (2:ℚ) ^ (Int.log 2 x) ≤ x ∧ x < (2:ℚ) ^ (Int.log 2 x + 1) :=
  ⟨Int.zpow_log_le_self (by norm_num) hx, Int.lt_zpow_succ_log_self (by norm_num) x⟩

theorem rndPosS_bounds {x : ℚ} (hx : 0 < x) :
    (2:ℚ) ^ (Int.log 2 x) ≤ rndPosS x ∧ rndPosS x ≤ (2:ℚ) ^ (Int.log 2 x + 1) := by
  obtain ⟨g1, g2⟩ := two_zpow_grid (Int.log 2 x)
  obtain ⟨hlo, hhi⟩ := log2_bounds hx
  rw [g1] at hlo
  rw [g2] at hhi
  rw [g1, g2]
  exact rgrid_between (two_zpow_pos _) hlo hhi.le

theorem rndPosS_mono {x y : ℚ} (hx : 0 < x) (h : x ≤ y) : rndPosS x ≤ rndPosS y := by
  have hy : 0 < y := lt_of_lt_of_le hx h
  have hle : Int.log 2 x ≤ Int.log 2 y := Int.log_mono_right hx h
  rcases hle.lt_or_eq with hlt | heq
  · have h1 := (rndPosS_bounds hx).2
    have h2 := (rndPosS_bounds hy).1
    have : (2:ℚ) ^ (Int.log 2 x + 1) ≤ 2 ^ (Int.log 2 y) :=
      zpow_le_zpow_right₀ (by norm_num) (by omega)
    exact h1.trans (this.trans h2)
  · unfold rndPosS; rw [heq]; exact rgrid_mono _ (two_zpow_pos _) h

/-- the integer test of `ilog2Rat` decides `2 ^ e ≤ p / q` -/
theorem ilog2_test (p q : ℕ) (hq : 0 < q) (e : ℤ) :
    (if e ≥ 0 then decide (p ≥ q * 2 ^ e.toNat) else decide (p * 2 ^ (-e).toNat ≥ q)) = true
      ↔ (2:ℚ) ^ e ≤ (p:ℚ) / q := by
  have hq' : (0:ℚ) < q := by exact_mod_cast hq
  rw [le_div_iff₀ hq']
  split
  · next h =>
    rw [decide_eq_true_iff, ge_iff_le, ← Nat.cast_le (α := ℚ), Nat.cast_mul, two_zpow_toNat h,
      mul_comm]
  · next h =>
    rw [decide_eq_true_iff, ge_iff_le, ← Nat.cast_le (α := ℚ), Nat.cast_mul,
      two_zpow_toNat (by omega : 0 ≤ -e), zpow_neg, ← div_eq_mul_inv,
      le_div_iff₀ (two_zpow_pos _), mul_comm]

theorem natLog2_bounds (p : ℕ) (hp : 0 < p) :
    (2:ℚ) ^ (Nat.log2 p : ℤ) ≤ p ∧ (p:ℚ) < 2 ^ ((Nat.log2 p : ℤ) + 1) := by
  have h2 : ((Nat.log2 p : ℤ) + 1) = ((Nat.log2 p + 1 : ℕ) : ℤ) := (Nat.cast_succ _).symm
  rw [h2, zpow_natCast, zpow_natCast]
  exact ⟨by exact_mod_cast Nat.log2_self_le (by omega), by exact_mod_cast Nat.lt_log2_self⟩

theorem ilog2Rat_spec (p q : Nat) (hp : 0 < p) (hq : 0 < q) :
    (2:ℚ) ^ (ilog2Rat p q) ≤ (p:ℚ) / q ∧ (p:ℚ) / q < (2:ℚ) ^ (ilog2Rat p q + 1) := by
  have hq' : (0:ℚ) < q := by exact_mod_cast hq
  obtain ⟨Lp1, Lp2⟩ := natLog2_bounds p hp
  obtain ⟨Lq1, Lq2⟩ := natLog2_bounds q hq
  have two_ne : (2:ℚ) ≠ 0 := by norm_num
  set e : ℤ := (Nat.log2 p : ℤ) - (Nat.log2 q : ℤ) with he
  -- `2 ^ (e - 1) < p / q < 2 ^ (e + 1)` from the bit lengths; the test picks the binade
  have lower : (2:ℚ) ^ (e - 1) < (p:ℚ) / q := by
    rw [lt_div_iff₀ hq']
    calc (2:ℚ) ^ (e - 1) * q < 2 ^ (e - 1) * 2 ^ ((Nat.log2 q : ℤ) + 1) :=
          mul_lt_mul_of_pos_left Lq2 (two_zpow_pos _)
      _ = 2 ^ (Nat.log2 p : ℤ) := by rw [← zpow_add₀ two_ne]; congr 1; omega
      _ ≤ p := Lp1
  have upper : (p:ℚ) / q < (2:ℚ) ^ (e + 1) := by
    rw [div_lt_iff₀ hq']
    calc (p:ℚ) < 2 ^ ((Nat.log2 p : ℤ) + 1) := Lp2
      _ = 2 ^ (e + 1) * 2 ^ (Nat.log2 q : ℤ) := by rw [← zpow_add₀ two_ne]; congr 1; omega
      _ ≤ 2 ^ (e + 1) * q := mul_le_mul_of_nonneg_left Lq1 (two_zpow_pos _).le
  have hdef : ilog2Rat p q =
      if (if e ≥ 0 then decide (p ≥ q * 2 ^ e.toNat) else decide (p * 2 ^ (-e).toNat ≥ q)) = true
      then e else e - 1 := rfl
  by_cases h : (if e ≥ 0 then decide (p ≥ q * 2 ^ e.toNat)
      else decide (p * 2 ^ (-e).toNat ≥ q)) = true
  · rw [hdef, if_pos h]; exact ⟨(ilog2_test p q hq e).mp h, upper⟩
  · rw [hdef, if_neg h, sub_add_cancel]
    exact ⟨lower.le, not_le.mp (mt (ilog2_test p q hq e).mpr h)⟩

theorem log2_eq_of_bounds {x : ℚ} {e : ℤ} (hx : 0 < x) (h1 : (2:ℚ) ^ e ≤ x)
    (h2 : x < (2:ℚ) ^ (e + 1)) : Int.log 2 x = e := by
  have a1 : e ≤ Int.log 2 x := (Int.zpow_le_iff_le_log (by norm_num) hx).mp h1
  have a2 : Int.log 2 x < e + 1 := (Int.lt_zpow_iff_log_lt (by norm_num) hx).mp h2
  omega

theorem ilog2Rat_eq_log (p q : Nat) (hp : 0 < p) (hq : 0 < q) :
    ilog2Rat p q = Int.log 2 ((p:ℚ) / q) :=
  have ⟨h1, h2⟩ := ilog2Rat_spec p q hp hq
  (log2_eq_of_bounds (div_pos (Nat.cast_pos.mpr hp) (Nat.cast_pos.mpr hq)) h1 h2).symm

/-- `rndPos` with the binade as a parameter -/
def rndPosE (e : ℤ) (p q : ℕ) : ℚ :=
  let s : Int := 52 - e
  let num : Nat := if s ≥ 0 then p * 2 ^ s.toNat else p
  let den : Nat := if s ≥ 0 then q else q * 2 ^ (-s).toNat
  let k := num / den
  let r := num % den
  let k' := if 2 * r > den then k + 1
            else if 2 * r = den then (if k % 2 = 1 then k + 1 else k) else k
  if s ≥ 0 then mkRat k' (2 ^ s.toNat) else ((k' * 2 ^ (-s).toNat : Nat) : Rat)

/-- scaling by `2 ^ (52 - e)` keeps `p / q` a quotient of naturals, on which `rne` is the
quotient / remainder test of `rndPos` -/
theorem rndPosE_eq (e : ℤ) (p q : ℕ) (hq : 0 < q) :
    rndPosE e p q = rgrid ((2:ℚ) ^ (e - 52)) ((p:ℚ) / q) := by
  have hq' : (0:ℚ) < q := by exact_mod_cast hq
  have hu : (2:ℚ) ^ (e - 52) = (2 ^ (52 - e))⁻¹ := by rw [← zpow_neg]; congr 1; omega
  unfold rndPosE
  rw [rgrid_eq]
  by_cases hs : 52 - e ≥ 0
  · have hx : (p:ℚ) / q / (2:ℚ) ^ (e - 52) = ((p * 2 ^ (52 - e).toNat : ℕ) : ℚ) / q := by
      rw [hu, Nat.cast_mul, two_zpow_toNat hs, div_inv_eq_mul, div_mul_eq_mul_div]
    simp only [hs, if_true]
    rw [hx, rne_natCast_div _ _ hq, Rat.mkRat_eq_div, Int.cast_natCast, two_zpow_toNat hs, hu,
      div_eq_mul_inv]
  · have hs' : 0 ≤ -(52 - e) := by omega
    have hu' : (2:ℚ) ^ (e - 52) = 2 ^ (-(52 - e)) := by congr 1; omega
    have hx : (p:ℚ) / q / (2:ℚ) ^ (e - 52) = (p : ℚ) / ((q * 2 ^ (-(52 - e)).toNat : ℕ) : ℚ) := by
      rw [hu', Nat.cast_mul, two_zpow_toNat hs', div_div]
    simp only [hs, if_false]
    rw [hx, rne_natCast_div _ _ (Nat.mul_pos hq (Nat.pow_pos two_pos)), Int.cast_natCast, Nat.cast_mul,
      two_zpow_toNat hs', hu']

theorem rndPos_eq (p q : ℕ) (hp : 0 < p) (hq : 0 < q) : rndPos p q = rndPosS ((p:ℚ) / q) := by
  show rndPosE (ilog2Rat p q) p q = _
  rw [rndPosE_eq _ _ _ hq, ilog2Rat_eq_log p q hp hq]; rfl

theorem rnd_zero : rnd 0 = 0 := rfl

theorem rnd_of_pos {x : ℚ} (hx : 0 < x) : rnd x = rndPosS x := by
  have hn : 0 < x.num := Rat.num_pos.mpr hx
  have hc : ((x.num.toNat : ℕ) : ℚ) = ((x.num : ℤ) : ℚ) := by
    rw [← Int.cast_natCast, Int.toNat_of_nonneg hn.le]
  unfold rnd
  rw [if_neg hn.ne', if_pos hn, rndPos_eq _ _ (by omega) x.den_pos, hc, Rat.num_div_den]

theorem rnd_neg (x : ℚ) : rnd (-x) = - rnd x := by
  unfold rnd
  rw [Rat.neg_num, Rat.neg_den]
  rcases lt_trichotomy x.num 0 with h | h | h
  · rw [if_neg (by omega), if_pos (by omega), if_neg (by omega), if_neg (by omega), neg_neg]
  · rw [if_pos (by omega), if_pos h, neg_zero]
  · rw [if_neg (by omega), if_neg (by omega), if_neg (by omega), if_pos h, neg_neg]

/-- `rnd` is odd: a statement that passes from `x` to `-x` need only be proved on positives -/
@[elab_as_elim]
theorem rnd_sign_cases {P : ℚ → Prop} (zero : P 0) (pos : ∀ x, 0 < x → P x)
    (neg : ∀ x, P x → P (-x)) (x : ℚ) : P x := by
  rcases lt_trichotomy x 0 with h | h | h
  · exact neg_neg x ▸ neg _ (pos _ (neg_pos.mpr h))
  · exact h ▸ zero
  · exact pos x h

theorem rnd_pos {x : ℚ} (hx : 0 < x) : 0 < rnd x := by
  rw [rnd_of_pos hx]
  exact lt_of_lt_of_le (two_zpow_pos _) (rndPosS_bounds hx).1

theorem rnd_nonneg {x : ℚ} (h : 0 ≤ x) : 0 ≤ rnd x := by
  rcases h.lt_or_eq with h | h
  · exact (rnd_pos h).le
  · rw [← h, rnd_zero]

theorem rnd_nonpos {x : ℚ} (h : x ≤ 0) : rnd x ≤ 0 := by
  have := rnd_nonneg (neg_nonneg.mpr h)
  rw [rnd_neg] at this; exact neg_nonneg.mp this

theorem rnd_mono_of_pos {x y : ℚ} (hx : 0 < x) (h : x ≤ y) : rnd x ≤ rnd y := by
  rw [rnd_of_pos hx, rnd_of_pos (lt_of_lt_of_le hx h)]; exact rndPosS_mono hx h

theorem rnd_mono {x y : ℚ} (h : x ≤ y) : rnd x ≤ rnd y := by
  rcases lt_or_ge 0 x with hx | hx
  · exact rnd_mono_of_pos hx h
  · rcases le_or_gt 0 y with hy | hy
    · exact le_trans (rnd_nonpos hx) (rnd_nonneg hy)
    · have h1 : rnd (-y) ≤ rnd (-x) := rnd_mono_of_pos (neg_pos.mpr hy) (neg_le_neg h)
      rw [rnd_neg, rnd_neg] at h1; exact neg_le_neg_iff.mp h1

theorem rnd_monotone : Monotone rnd := fun _ _ h => rnd_mono h

theorem rndPosS_dyadic (m e : ℤ) (hm0 : 0 < m) (hm : m < 2 ^ 53) :
    rndPosS ((m:ℚ) * 2 ^ e) = (m:ℚ) * 2 ^ e := by
  have hm0' : (0:ℚ) < m := by exact_mod_cast hm0
  have hx : (0:ℚ) < (m:ℚ) * 2 ^ e := mul_pos hm0' (two_zpow_pos _)
  have hlt : (m:ℚ) * 2 ^ e < (2:ℚ) ^ (e + (53:ℕ)) := by
    rw [two_zpow_add]
    exact mul_lt_mul_of_pos_right (by exact_mod_cast hm) (two_zpow_pos _)
  have hlog : Int.log 2 ((m:ℚ) * 2 ^ e) < e + 53 :=
    (Int.lt_zpow_iff_log_lt (by norm_num) hx).mp (by exact_mod_cast hlt)
  unfold rndPosS
  set e' := Int.log 2 ((m:ℚ) * 2 ^ e) with he'
  -- `m * 2^e` is a multiple of the grid spacing `2^(e' - 52)`
  have hsplit : (m:ℚ) * 2 ^ e = ((m * 2 ^ (e - e' + 52).toNat : ℤ) : ℚ) * 2 ^ (e' - 52) := by
    have := two_zpow_toNat (show 0 ≤ e - e' + 52 by omega)
    push_cast at this ⊢
    rw [this, mul_assoc, ← zpow_add₀ (by norm_num)]
    congr 2; omega
  rw [hsplit, rgrid_fix _ (two_zpow_pos _)]

theorem rnd_dyadic (m e : ℤ) (hm : |m| < 2 ^ 53) : rnd ((m:ℚ) * 2 ^ e) = (m:ℚ) * 2 ^ e := by
  rcases lt_trichotomy m 0 with h | h | h
  · have hm' : -m < 2 ^ 53 := by rwa [abs_of_neg h] at hm
    have hp : (0:ℚ) < ((-m : ℤ) : ℚ) * 2 ^ e := mul_pos (by exact_mod_cast neg_pos.mpr h) (two_zpow_pos _)
    have := rndPosS_dyadic (-m) e (by omega) hm'
    rw [← rnd_of_pos hp, Int.cast_neg, neg_mul, rnd_neg] at this
    exact neg_injective this
  · subst h; simp [rnd_zero]
  · have hp : (0:ℚ) < (m:ℚ) * 2 ^ e := mul_pos (by exact_mod_cast h) (two_zpow_pos _)
    rw [rnd_of_pos hp, rndPosS_dyadic m e h (by rwa [abs_of_pos h] at hm)]

theorem rnd_intCast_of_lt (z : ℤ) (h : |z| < 2 ^ 53) : rnd (z : ℚ) = z := by
  simpa using rnd_dyadic z 0 h

theorem rnd_natCast_of_lt (n : ℕ) (h : n < 2 ^ 53) : rnd (n : ℚ) = n := by
  have := rnd_intCast_of_lt (n : ℤ) (by rw [abs_of_nonneg (Int.natCast_nonneg n)]; exact_mod_cast h)
  simpa using this

theorem rnd_one : rnd 1 = 1 := by
  simpa using rnd_natCast_of_lt 1 (by norm_num)

theorem rnd_two : rnd 2 = 2 := by simpa using rnd_natCast_of_lt 2 (by norm_num)

theorem rnd_le_one {x : ℚ} (h : x ≤ 1) : rnd x ≤ 1 := by
  have := rnd_mono h; rwa [rnd_one] at this

theorem rnd_dyadic_le (m e : ℤ) (hm : |m| ≤ 2 ^ 53) : rnd ((m:ℚ) * 2 ^ e) = (m:ℚ) * 2 ^ e := by
  rcases hm.lt_or_eq with h | h
  · exact rnd_dyadic m e h
  · have key : rnd (((2 ^ 53 : ℤ) : ℚ) * 2 ^ e) = ((2 ^ 53 : ℤ) : ℚ) * 2 ^ e := by
      rw [← two_zpow_add, ← one_mul ((2:ℚ) ^ _)]
      exact_mod_cast rnd_dyadic 1 _ (by norm_num)
    rcases abs_choice m with h' | h'
    · rw [show m = 2 ^ 53 by omega]; exact key
    · rw [show m = -(2 ^ 53) by omega, Int.cast_neg, neg_mul, rnd_neg, key]

theorem rndPosS_mem {x : ℚ} (hx : 0 < x) :
    ∃ m : ℤ, 0 < m ∧ m ≤ 2 ^ 53 ∧ rndPosS x = (m:ℚ) * 2 ^ (Int.log 2 x - 52) := by
  obtain ⟨h1, h2⟩ := rndPosS_bounds hx
  have hm : rndPosS x = rne (x / 2 ^ (Int.log 2 x - 52)) * 2 ^ (Int.log 2 x - 52) := rgrid_eq _ _
  set e := Int.log 2 x
  set m := rne (x / 2 ^ (e - 52))
  have hu : (0:ℚ) < 2 ^ (e - 52) := two_zpow_pos _
  have g2 := (two_zpow_grid e).2
  refine ⟨m, ?_, ?_, hm⟩
  · have : (0:ℚ) < m * 2 ^ (e - 52) := hm ▸ lt_of_lt_of_le (two_zpow_pos _) h1
    exact_mod_cast (pos_iff_pos_of_mul_pos this).mpr hu
  · rw [hm, g2] at h2
    exact_mod_cast le_of_mul_le_mul_right h2 hu

theorem rnd_idem (x : ℚ) : rnd (rnd x) = rnd x := by
  induction x using rnd_sign_cases with
  | zero => rw [rnd_zero, rnd_zero]
  | neg x h => rw [rnd_neg, rnd_neg, h]
  | pos x hx =>
    obtain ⟨m, hm0, hm, h⟩ := rndPosS_mem hx
    rw [rnd_of_pos hx, h]
    exact rnd_dyadic_le m _ (by rw [abs_of_pos hm0]; exact hm)

theorem log2_half {x : ℚ} (hx : 0 < x) : Int.log 2 (x / 2) = Int.log 2 x - 1 := by
  have two_ne : (2:ℚ) ≠ 0 := by norm_num
  obtain ⟨hlo, hhi⟩ := log2_bounds hx
  apply log2_eq_of_bounds (half_pos hx)
  · rw [zpow_sub_one₀ two_ne, ← div_eq_mul_inv]
    exact div_le_div_of_nonneg_right hlo (by norm_num)
  · rw [sub_add_cancel]
    rw [zpow_add_one₀ two_ne] at hhi
    rw [div_lt_iff₀ (by norm_num : (0:ℚ) < 2)]; exact hhi

theorem rnd_half (x : ℚ) : rnd (x / 2) = rnd x / 2 := by
  induction x using rnd_sign_cases with
  | zero => rw [zero_div, rnd_zero, zero_div]
  | neg x h => rw [neg_div, rnd_neg, rnd_neg, h, neg_div]
  | pos x hx =>
    rw [rnd_of_pos hx, rnd_of_pos (half_pos hx)]
    unfold rndPosS
    rw [log2_half hx, ← rgrid_half]
    congr 1
    rw [show Int.log 2 x - 1 - 52 = Int.log 2 x - 52 - 1 by omega, zpow_sub_one₀ (by norm_num),
      ← div_eq_mul_inv]

theorem rndPosS_err {x : ℚ} (hx : 0 < x) : |rndPosS x - x| ≤ (2:ℚ) ^ (-53 : ℤ) * x := by
  have two_ne : (2:ℚ) ≠ 0 := by norm_num
  have hlo := (log2_bounds hx).1
  have h := rgrid_err ((2:ℚ) ^ (Int.log 2 x - 52)) x (two_zpow_pos _)
  have hu : (2:ℚ) ^ (Int.log 2 x - 52) / 2 = (2:ℚ) ^ (-53 : ℤ) * 2 ^ (Int.log 2 x) := by
    rw [div_eq_mul_inv, ← zpow_sub_one₀ two_ne, ← zpow_add₀ two_ne]; congr 1; omega
  rw [hu] at h
  exact le_trans h (mul_le_mul_of_nonneg_left hlo (two_zpow_pos _).le)

theorem rnd_relErr (x : ℚ) : |rnd x - x| ≤ (2:ℚ) ^ (-53 : ℤ) * |x| := by
  induction x using rnd_sign_cases with
  | zero => simp [rnd_zero]
  | neg x h => rwa [rnd_neg, ← neg_sub', abs_neg, abs_neg]
  | pos x hx => rw [abs_of_pos hx, rnd_of_pos hx]; exact rndPosS_err hx

theorem rnd_isRounding : IsRounding rnd where
  mono := rnd_monotone
  zero := rnd_zero
  neg := rnd_neg
  fix_nat := rnd_natCast_of_lt
  idem := rnd_idem
  half := rnd_half

end BB
