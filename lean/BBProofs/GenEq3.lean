/-
GenEq3 — the side conditions of GenEq.lean (`SumOk`: non-zero float denominators) discharged for every
summary the tree can hold, on the whole no-wrap range `n·Σk < 2^64`; the error bound of C11 for the
generated `jt_isim_from_sum`; and `codeAccept`, a criterion looked up by name and called, with `codeAccept_eq` / `_iff`
(what C10 states about the code).
-/
import BBProofs.GenEq
import BBProofs.IsimErr
import BBProofs.Merges

namespace BB
open PV

theorem isimDen_pos (ks : List Nat) (n : Nat) (hn : 2 ≤ n) (hk : ∀ k ∈ ks, k ≤ n) (hS : 0 < ks.sum)
    (hb : n * ks.sum < 2 ^ 64) : 0 < isimDen ks n := by
  rw [isimDen_of_no_wrap ks n hk hb]
  exact isim_floatDen_pos ks n hn hk hS

/-- the `den` field of `SumOk`, in its shape, on the whole no-wrap range -/
theorem isimDen_ne_of_no_wrap (ks : List Nat) (n : Nat) (hk : ∀ k ∈ ks, k ≤ n) (hb : n * ks.sum < 2 ^ 64) :
    2 ≤ n → u64 ks.sum ≠ 0 → isimDen ks n ≠ 0 := fun hn h0 =>
  (isimDen_pos ks n hn hk (Nat.pos_of_ne_zero fun h => h0 (by rw [h]; rfl)) hb).ne'

theorem isimDen_ne_zero (ks : List Nat) (n : Nat) (hn : 2 ≤ n)
    (hk : ∀ k ∈ ks, k ≤ n) (hS : 0 < ks.sum) (hb : n * ks.sum < 2 ^ 52) : isimDen ks n ≠ 0 :=
  ne_of_gt (isimDen_pos ks n hn hk hS (by omega))

theorem ls1_bounds (ls : List Nat) (n : Nat) (hk : ∀ k ∈ ls, k ≤ n) (hn : n + 1 < 2 ^ 53) :
    (∀ k ∈ ls1 ls n, k ≤ n + 1) ∧ (ls1 ls n).sum ≤ ls.sum + ls.length := by
  have hlen := gen_centroid_length ls n
  have hc1 : ∀ k ∈ rowToNat (centroidFromSum ls n), k ≤ 1 := by
    intro k hkm
    obtain ⟨b, _, rfl⟩ := List.mem_map.1 hkm
    cases b <;> simp
  have hadd := addLs_le ls (rowToNat (centroidFromSum ls n)) hlen.symm n 1 hk hc1
  -- the uint64 cast changes nothing
  have hid : ls1 ls n = addLs ls (rowToNat (centroidFromSum ls n)) :=
    map_wrap_u64 _ (fun k hkm => by have := hadd k hkm; omega)
  have := rowToNat_sum_le (centroidFromSum ls n)
  rw [← rowToNat_length, hlen] at this
  rw [hid, sum_addLs _ _ hlen.symm]
  exact ⟨hadd, Nat.add_le_add_left this _⟩

theorem sumOk_of_consistent (s : Summary) (hk : ∀ k ∈ s.ls, k ≤ s.n) (hn : s.n + 1 < 2 ^ 53)
    (hb : (s.n + 1) * (s.ls.sum + s.ls.length) < 2 ^ 64) : SumOk s := by
  obtain ⟨h1, h2⟩ := ls1_bounds s.ls s.n hk hn
  refine ⟨hk, hn, isimDen_ne_of_no_wrap s.ls s.n hk ?_, isimDen_ne_of_no_wrap (ls1 s.ls s.n) (s.n + 1) h1 ?_⟩
  · calc s.n * s.ls.sum ≤ (s.n + 1) * (s.ls.sum + s.ls.length) := Nat.mul_le_mul (by omega) (by omega)
      _ < 2 ^ 64 := hb
  · calc (s.n + 1) * (ls1 s.ls s.n).sum ≤ (s.n + 1) * (s.ls.sum + s.ls.length) := Nat.mul_le_mul_left _ h2
      _ < 2 ^ 64 := hb

theorem gen_isim_ulp (expf : Rat → Rat) (w : W) (ks : List Nat) (n : Nat) (hn : 2 ≤ n) (hk : ∀ k ∈ ks, k ≤ n)
    (hS : 0 < ks.sum) (hb : n * ks.sum < 2 ^ 64) :
    ∃ v, BBGen.jt_isim_from_sum expf (PV.arr w ks) (PV.int n) = PV.flt (some v) ∧
      |v - exactIsim ks n| ≤ 18 * 2 ^ (-53 : ℤ) * exactIsim ks n ∧ 0 ≤ v := by
  obtain ⟨v, hv, herr, h0⟩ := isim_ulp ks n hn hk hS hb
  have hn64 : n < 2 ^ 64 := by
    have : n * 1 ≤ n * ks.sum := Nat.mul_le_mul_left n hS
    omega
  have hls : ∀ k ∈ ks, k < 2 ^ 64 := fun k h => by have := hk k h; omega
  refine ⟨v, ?_, herr, h0⟩
  rw [gen_isim' expf w ks n hls hn64 (isimDen_ne_of_no_wrap ks n hk hb),
    isimPV_of_pos hn (by rw [(isim_no_wrap ks n hk hb).1]; omega), hv]

/-- `get_merge_accept_fn(name, tol)(thr, new_ls, new_n, old_ls, nom_ls, old_n, nom_n)` -/
def codeAccept (expf : Rat → Rat) (name : String) (tol thr : Rat) (new old nom : Summary) (w w' w'' : W) : PV :=
  BBGen.MergeAcceptFunction_call expf (BBGen.get_merge_accept_fn expf (PV.str name) (PV.flt (some tol))) (PV.flt (some thr))
    (PV.arr w new.ls) (PV.int new.n) (PV.arr w' old.ls) (PV.arr w'' nom.ls) (PV.int old.n) (PV.int nom.n)

theorem codeAccept_eq (expf : Rat → Rat) (c : Crit) (tol thr : Rat) (new old nom : Summary) (w w' w'' : W)
    (hn : SumOk new) (ho : SumOk old) (hO : 1 ≤ old.n) :
    codeAccept expf c.name tol thr new old nom w w' w'' = PV.bool (accept ⟨c, tol⟩ (tabOf expf) thr new old nom) := by
  unfold codeAccept
  rw [gen_dispatch, getMergeFn_name]
  exact gen_accept expf ⟨c, tol⟩ thr new old nom w w' w'' hn ho hO

/-- every law of the model's `accept` is a law of the code through this equivalence -/
theorem codeAccept_iff (expf : Rat → Rat) (c : Crit) (tol thr : Rat) (new old nom : Summary) (w w' w'' : W)
    (hn : SumOk new) (ho : SumOk old) (hO : 1 ≤ old.n) :
    codeAccept expf c.name tol thr new old nom w w' w'' = PV.bool true ↔ accept ⟨c, tol⟩ (tabOf expf) thr new old nom = true := by
  rw [codeAccept_eq expf c tol thr new old nom w w' w'' hn ho hO, PV.bool.injEq]

end BB
