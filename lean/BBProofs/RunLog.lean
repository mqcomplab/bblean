/-
The write log of a multi-round run.  Tasks write files named by their own label, so a round does not depend
on the order of execution (`runTasks_ok_iff_execRound`), and a successful run is the purge, a list of writes
that does not depend on the schedule (`RunLog`), the final files and the cleanup (`multiround_ok_iff`).  The
log depends on the round files only (`Same`), so a run on any directory makes the writes of the run on the
empty one (`multiround_fresh_iff`).  Multiround.lean and Trace.lean read their results off this form.
-/
import BBProofs.FS
import BBProofs.OpsAux

namespace BB.MR
open BB

theorem except_map_eq_ok {α β : Type} {f : α → β} {x : Except Err α} {y : β} (h : x.map f = .ok y) :
    ∃ a, x = .ok a ∧ y = f a := by
  cases x with
  | error e => simp [Except.map] at h
  | ok a => exact ⟨a, rfl, by simpa [Except.map] using h.symm⟩

theorem bind_eq_ok {α β : Type} {x : Except Err α} {f : α → Except Err β} {y : β} (h : (x >>= f) = .ok y) :
    ∃ a, x = .ok a ∧ f a = .ok y := by
  cases x with
  | error e => simp [bind, Except.bind] at h
  | ok a => exact ⟨a, rfl, by simpa [bind, Except.bind] using h⟩

theorem toOption_eq_iff {α : Type} {x y : Except Err α} :
    x.toOption = y.toOption ↔ ∀ v, x = .ok v ↔ y = .ok v := by
  cases x <;> cases y <;> simp [Except.toOption]

theorem isOk_eq_toOption {α : Type} (x : Except Err α) : x.isOk = x.toOption.isSome := by
  cases x <;> rfl

variable (pol : BB.Cfg → Policy)

theorem multiround_eq (c : Cfg) (files : List (List Row)) (sched : Nat → List Nat → List Nat) (fs0 : FS) :
    multiround pol c files sched fs0 =
      (runTasks (purge fs0) (initTasks pol c files) (orderOf sched 1 (initTasks pol c files).length) >>= fun fs1 =>
       midRounds pol c files.flatten sched c.nMidRounds 2 fs1 >>= fun fs2 =>
       finalTask pol c fs2 (prevPairs fs2 (c.nMidRounds + 2)) >>= fun ws =>
       pure (if c.cleanup then (writeAll fs2 ws).remove isRoundFile else writeAll fs2 ws)) := rfl

theorem midRounds_succ (c : Cfg) (allRows : List Row) (sched : Nat → List Nat → List Nat) (k r : Nat) (fs : FS) :
    midRounds pol c allRows sched (k+1) r fs =
      (runTasks fs (midTasks pol c allRows r fs) (orderOf sched r (midTasks pol c allRows r fs).length) >>= fun fs' =>
        midRounds pol c allRows sched k (r + 1) fs') := rfl

/-- a task writes only files of round `r` with label `L` -/
def LabelTask (r : Nat) (L : String) (t : Except Err Writes) : Prop :=
  ∀ ws, t = .ok ws → ∀ x ∈ ws, ∃ w, x.1 = bufName r L w ∨ x.1 = idxName r L w

theorem LabelTask.of_saveGroups (r : Nat) (L : String) (g : Except Err (List (W × List Clu))) :
    LabelTask r L (g.map (saveGroups r L)) := by
  intro ws h x hx
  obtain ⟨gs, _, rfl⟩ := except_map_eq_ok h
  simp only [saveGroups, List.mem_flatMap, List.mem_cons, List.not_mem_nil, or_false] at hx
  obtain ⟨g, _, rfl | rfl⟩ := hx
  exacts [⟨g.1, Or.inl rfl⟩, ⟨g.1, Or.inr rfl⟩]

theorem LabelTask.name {r : Nat} {L : String} {t : Except Err Writes} (h : LabelTask r L t) {ws : Writes}
    (e : t = .ok ws) {x : String × Content} (hx : x ∈ ws) : ∃ k w, x.1 = roundName k r L w :=
  let ⟨w, hw⟩ := h ws e x hx
  hw.elim (⟨.buf, w, ·⟩) (⟨.idx, w, ·⟩)

theorem LabelTask.disjoint {r : Nat} {L L' : String} (hL : L ≠ L') {a b : Except Err Writes}
    (ha : LabelTask r L a) (hb : LabelTask r L' b) : DisjointTasks a b := by
  intro wa wb ea eb x hx y hy hxy
  obtain ⟨k, w, hw⟩ := ha.name ea hx
  obtain ⟨k', w', hw'⟩ := hb.name eb hy
  rw [hw, hw'] at hxy
  exact hL (roundName_inj hxy).2.2.1

theorem LabelTask.roundFile {r : Nat} {L : String} {t : Except Err Writes} (h : LabelTask r L t)
    {ws : Writes} (e : t = .ok ws) : ∀ x ∈ ws, isRoundFile x.1 = true := by
  intro x hx
  obtain ⟨k, w, hw⟩ := h.name e hx
  rw [hw]
  exact isRoundFile_roundName k r L w

/-- tasks that write round files only -/
def RoundTasks (ts : List (Except Err Writes)) : Prop :=
  ∀ t ∈ ts, ∀ w, t = .ok w → ∀ x ∈ w, isRoundFile x.1 = true

theorem RoundTasks.flatten {ts : List (Except Err Writes)} (h : RoundTasks ts) {wss : List Writes}
    (e : ts = wss.map .ok) : ∀ x ∈ wss.flatten, isRoundFile x.1 = true := by
  intro x hx
  obtain ⟨w, hw, hxw⟩ := List.mem_flatten.mp hx
  exact h (.ok w) (e ▸ List.mem_map_of_mem hw) w rfl x hxw

theorem pairwise_zipIdx_ne {α : Type} (l : List α) : l.zipIdx.Pairwise (fun a b => a.2 ≠ b.2) := by
  apply List.Pairwise.of_map Prod.snd (S := (· ≠ ·)) (fun a b h => h)
  rw [List.zipIdx_map_snd]
  exact List.nodup_range'

theorem pairwise_disjoint_of_labels {α : Type} (l : List α) (z r : Nat) (task : α × Nat → Except Err Writes)
    (hl : ∀ x, LabelTask r (zfill z x.2) (task x)) : (l.zipIdx.map task).Pairwise DisjointTasks := by
  rw [List.pairwise_map]
  exact (pairwise_zipIdx_ne l).imp (fun {a b} hab =>
    LabelTask.disjoint (fun h => hab (zfill_inj h)) (hl a) (hl b))

theorem roundTasks_of_labels {α : Type} (l : List α) (z r : Nat) (task : α × Nat → Except Err Writes)
    (hl : ∀ x, LabelTask r (zfill z x.2) (task x)) : RoundTasks (l.zipIdx.map task) := by
  intro t ht w hw
  obtain ⟨x, _, rfl⟩ := List.mem_map.mp ht
  exact (hl x).roundFile hw

theorem chunk_flatten {α : Type} (k : Nat) (l : List α) : (chunk k l).flatten = l := by
  fun_induction chunk k l with
  | case1 => rfl
  | case2 x xs hk => simp
  | case3 x xs hk ih => rw [List.flatten_cons, ih, List.take_append_drop]

theorem chunk_mem {α : Type} {k : Nat} {l b : List α} (hb : b ∈ chunk k l) {x : α} (hx : x ∈ b) : x ∈ l := by
  rw [← chunk_flatten k l]
  exact List.mem_flatten.mpr ⟨b, hb, hx⟩

theorem chunk_ne_nil {α : Type} (k : Nat) (l : List α) : ∀ b ∈ chunk k l, b ≠ [] := by
  fun_induction chunk k l with
  | case1 => simp
  | case2 x xs hk => simp
  | case3 x xs hk ih =>
    intro b hb
    rcases List.mem_cons.mp hb with rfl | hb
    · cases k with
      | zero => exact absurd rfl hk
      | succ k => simp
    · exact ih b hb

theorem chunk_length_le {α : Type} (k : Nat) (hk : 0 < k) (l : List α) :
    (chunk k l).length ≤ (l.length + k - 1) / k := by
  rw [Nat.le_div_iff_mul_le hk]
  have key : (chunk k l).length * k < l.length + k := by
    fun_induction chunk k l with
    | case1 => simpa using hk
    | case2 x xs hk0 => omega
    | case3 x xs hk0 ih =>
      simp only [List.length_cons, List.length_drop] at ih ⊢
      rw [Nat.add_mul, Nat.one_mul]
      rcases Nat.lt_or_ge (xs.length + 1) k with hle | hle
      · -- a list shorter than `k` is one chunk
        rw [Nat.sub_eq_zero_of_le hle.le, Nat.zero_add] at ih
        have h0 : (chunk k (List.drop k (x :: xs))).length = 0 :=
          Nat.lt_one_iff.mp (Nat.lt_of_mul_lt_mul_right (a := k) (by rwa [Nat.one_mul]))
        rw [h0]; omega
      · omega
  omega

/-- `batches` gives its labels as many digits as `⌈len / k⌉` has, and there are at most that many batches -/
theorem chunk_index_lt {α : Type} (k : Nat) (l : List α) (i : Nat) (hi : i < (chunk k l).length) :
    i < 10 ^ (toString ((l.length + k - 1) / k)).length := by
  rcases Nat.eq_zero_or_pos k with rfl | hk
  · have hlen : (chunk 0 l).length ≤ 1 := by
      cases l with
      | nil => simp [chunk]
      | cons x xs => simp [chunk]
    have h1 : 1 ≤ 10 ^ (toString ((l.length + 0 - 1) / 0)).length := Nat.one_le_pow _ _ (by omega)
    omega
  · have hlen := chunk_length_le k hk l
    have hpow := lt_pow_repr_length ((l.length + k - 1) / k)
    omega

theorem sortBatch_perm (b : List (String × String)) : (sortBatch b).Perm b := List.mergeSort_perm _ _

theorem chunk_zipIdx_mem {pairs : List (String × String)} {k : Nat} {x : List (String × String) × Nat}
    (hx : x ∈ (chunk k pairs).zipIdx) {p : String × String} (hp : p ∈ sortBatch x.1) : p ∈ pairs :=
  chunk_mem ((List.mem_zipIdx' hx).2 ▸ List.getElem_mem _) ((sortBatch_perm _).mem_iff.mp hp)

theorem batches_mem {pairs : List (String × String)} {k : Nat} {b : String × List (String × String)}
    (hb : b ∈ batches pairs k) {p : String × String} (hp : p ∈ b.2) : p ∈ pairs := by
  simp only [batches, List.mem_map] at hb
  obtain ⟨x, hx, rfl⟩ := hb
  exact chunk_zipIdx_mem hx hp

theorem initTasks_eq (c : Cfg) (files : List (List Row)) :
    initTasks pol c files =
      ((files.zip (files.foldl (fun (acc : List Nat × Nat) f => (acc.1 ++ [acc.2], acc.2 + f.length)) ([], 0)).1).zipIdx.map
        (fun x => initialTask pol c (zfill (toString files.length).length x.2) x.1.1 x.1.2)) := by
  simp only [initTasks, fileTuples, List.map_map]
  rfl

theorem initTasks_disjoint (c : Cfg) (files : List (List Row)) : (initTasks pol c files).Pairwise DisjointTasks := by
  rw [initTasks_eq]
  exact pairwise_disjoint_of_labels _ _ 1 _ (fun _ => LabelTask.of_saveGroups _ _ _)

theorem midTasks_eq (c : Cfg) (allRows : List Row) (r : Nat) (fs : FS) :
    midTasks pol c allRows r fs =
      ((chunk c.binSize (prevPairs fs r)).zipIdx.map (fun x => mergingTask pol c allRows r fs
        (zfill (toString (((prevPairs fs r).length + c.binSize - 1) / c.binSize)).length x.2) (sortBatch x.1))) := by
  simp only [midTasks, batches, List.map_map]
  rfl

theorem midTasks_disjoint (c : Cfg) (allRows : List Row) (r : Nat) (fs : FS) :
    (midTasks pol c allRows r fs).Pairwise DisjointTasks := by
  rw [midTasks_eq]
  exact pairwise_disjoint_of_labels _ _ r _ (fun _ => LabelTask.of_saveGroups _ _ _)

theorem initTasks_round (c : Cfg) (files : List (List Row)) : RoundTasks (initTasks pol c files) := by
  rw [initTasks_eq]
  exact roundTasks_of_labels _ _ 1 _ (fun _ => LabelTask.of_saveGroups _ _ _)

theorem midTasks_round (c : Cfg) (allRows : List Row) (r : Nat) (fs : FS) :
    RoundTasks (midTasks pol c allRows r fs) := by
  rw [midTasks_eq]
  exact roundTasks_of_labels _ _ r _ (fun _ => LabelTask.of_saveGroups _ _ _)

theorem orderOf_perm (sched : Nat → List Nat → List Nat) (r n : Nat) : (orderOf sched r n).Perm (List.range n) := by
  unfold orderOf
  simp only
  split
  · rename_i h; exact List.isPerm_iff.mp h
  · exact List.Perm.refl _

theorem runTasks_ok_iff_execRound {fs fs' : FS} {tasks : List (Except Err Writes)} (hd : tasks.Pairwise DisjointTasks)
    {order : List Nat} (hp : order.Perm (List.range tasks.length)) :
    runTasks fs tasks order = .ok fs' ↔ execRound fs tasks = .ok fs' := by
  have hperm := hp.map (fun i => tasks.getD i (.error .value))
  rw [map_getD_range] at hperm
  exact toOption_eq_iff.mp (execRound_perm hperm hd fs) fs'

/-- a round run in the order of the schedule succeeds iff all its tasks do, and makes their writes in the order
of submission -/
theorem round_ok_iff {fs fs' : FS} {tasks : List (Except Err Writes)} (hd : tasks.Pairwise DisjointTasks)
    (sched : Nat → List Nat → List Nat) (r : Nat) :
    runTasks fs tasks (orderOf sched r tasks.length) = .ok fs' ↔
      ∃ wss : List Writes, tasks = wss.map .ok ∧ fs' = writeAll fs wss.flatten :=
  (runTasks_ok_iff_execRound hd (orderOf_perm sched r _)).trans (execRound_ok_iff _ _ _)

/-- the writes of `k` midsection rounds from round `r` on, in submission order -/
inductive MidLog (c : Cfg) (allRows : List Row) : Nat → Nat → FS → Writes → Prop
  | zero (r : Nat) (fs : FS) : MidLog c allRows 0 r fs []
  | succ {k r : Nat} {fs : FS} {wss : List Writes} {ws : Writes} :
      midTasks pol c allRows r fs = wss.map .ok → MidLog c allRows k (r + 1) (writeAll fs wss.flatten) ws →
      MidLog c allRows (k + 1) r fs (wss.flatten ++ ws)

theorem midRounds_ok_iff (c : Cfg) (allRows : List Row) (sched : Nat → List Nat → List Nat) :
    ∀ (k r : Nat) (fs fs' : FS), midRounds pol c allRows sched k r fs = .ok fs' ↔
      ∃ ws, MidLog pol c allRows k r fs ws ∧ fs' = writeAll fs ws
  | 0, r, fs, fs' => by
    simp only [midRounds, Except.ok.injEq]
    constructor
    · rintro rfl; exact ⟨[], .zero r fs, rfl⟩
    · rintro ⟨ws, h, rfl⟩; cases h; rfl
  | k+1, r, fs, fs' => by
    rw [midRounds_succ]
    constructor
    · intro h
      obtain ⟨fs1, h1, h2⟩ := bind_eq_ok h
      obtain ⟨wss, e, rfl⟩ := (round_ok_iff (midTasks_disjoint pol c allRows r fs) sched r).mp h1
      obtain ⟨ws, hl, rfl⟩ := (midRounds_ok_iff c allRows sched k (r + 1) _ _).mp h2
      exact ⟨_, .succ e hl, (writeAll_append _ _ _).symm⟩
    · rintro ⟨_, h, rfl⟩
      cases h with
      | succ e hl =>
        rw [(round_ok_iff (midTasks_disjoint pol c allRows r fs) sched r).mpr ⟨_, e, rfl⟩]
        exact (midRounds_ok_iff c allRows sched k (r + 1) _ _).mpr ⟨_, hl, writeAll_append _ _ _⟩

/-- the writes of a run on `fs` before the final round, those of round 1 and those of the midsection, and the
final sub-clusters `cl` -/
inductive RunLog (c : Cfg) (files : List (List Row)) (fs : FS) : Writes → List Clu → Prop
  | mk {wss : List Writes} {ws2 : Writes} {cl : List Clu} : initTasks pol c files = wss.map .ok →
      MidLog pol c files.flatten c.nMidRounds 2 (writeAll fs wss.flatten) ws2 →
      finalClus pol c (writeAll fs (wss.flatten ++ ws2))
        (prevPairs (writeAll fs (wss.flatten ++ ws2)) (c.nMidRounds + 2)) = .ok cl →
      RunLog c files fs (wss.flatten ++ ws2) cl

variable {pol} in
theorem RunLog.final {c : Cfg} {files : List (List Row)} {fs : FS} {ws : Writes} {cl : List Clu}
    (h : RunLog pol c files fs ws cl) :
    finalClus pol c (writeAll fs ws) (prevPairs (writeAll fs ws) (c.nMidRounds + 2)) = .ok cl := by
  obtain ⟨_, _, h⟩ := h
  exact h

/-- the last step of a run -/
def finish (c : Cfg) (fs : FS) : FS := if c.cleanup then fs.remove isRoundFile else fs

theorem read_finish (c : Cfg) (fs : FS) (n : String) :
    (finish c fs).read n = if c.cleanup && isRoundFile n then none else fs.read n := by
  unfold finish
  split <;> simp [read_remove, *]

theorem read_finish_of_not_round (c : Cfg) (fs : FS) {n : String} (h : isRoundFile n = false) :
    (finish c fs).read n = fs.read n := by
  rw [read_finish, h, Bool.and_false, if_neg Bool.false_ne_true]

theorem multiround_ok_iff (c : Cfg) (files : List (List Row)) (sched : Nat → List Nat → List Nat) (fs0 fs : FS) :
    multiround pol c files sched fs0 = .ok fs ↔
      ∃ ws cl, RunLog pol c files (purge fs0) ws cl ∧
        fs = finish c (writeAll (purge fs0) (ws ++ finalWrites c cl)) := by
  rw [multiround_eq]
  constructor
  · intro h
    obtain ⟨fs1, h1, h⟩ := bind_eq_ok h
    obtain ⟨fs2, h2, h⟩ := bind_eq_ok h
    obtain ⟨ws3, h3, h⟩ := bind_eq_ok h
    obtain ⟨wss, e, rfl⟩ := (round_ok_iff (initTasks_disjoint pol c files) sched 1).mp h1
    obtain ⟨ws2, hl, rfl⟩ := (midRounds_ok_iff pol c _ sched _ _ _ _).mp h2
    obtain ⟨cl, hcl, rfl⟩ := except_map_eq_ok h3
    rw [← writeAll_append] at hcl
    exact ⟨_, cl, .mk e hl hcl, by rw [writeAll_append, writeAll_append]; exact (Except.ok.inj h).symm⟩
  · rintro ⟨_, cl, ⟨e, hl, hcl⟩, rfl⟩
    rw [writeAll_append] at hcl
    rw [writeAll_append, writeAll_append,
      (round_ok_iff (initTasks_disjoint pol c files) sched 1).mpr ⟨_, e, rfl⟩]
    simp only [bind, Except.bind]
    rw [(midRounds_ok_iff pol c _ sched _ _ _ _).mpr ⟨_, hl, rfl⟩]
    simp only [finalTask, hcl, Except.map]
    rfl

variable {pol} in
theorem MidLog.roundFiles {c : Cfg} {allRows : List Row} {k r : Nat} {fs : FS} {ws : Writes}
    (h : MidLog pol c allRows k r fs ws) : ∀ x ∈ ws, isRoundFile x.1 = true := by
  induction h with
  | zero => simp
  | @succ k r fs wss ws e _ ih =>
    exact List.forall_mem_append.mpr ⟨(midTasks_round pol c allRows r fs).flatten e, ih⟩

variable {pol} in
theorem RunLog.roundFiles {c : Cfg} {files : List (List Row)} {fs : FS} {ws : Writes} {cl : List Clu}
    (h : RunLog pol c files fs ws cl) : ∀ x ∈ ws, isRoundFile x.1 = true := by
  obtain ⟨e, hl, _⟩ := h
  exact List.forall_mem_append.mpr ⟨(initTasks_round pol c files).flatten e, hl.roundFiles⟩

theorem finalWrites_final (c : Cfg) (cl : List Clu) : ∀ x ∈ finalWrites c cl, isFinalFile x.1 = true := by
  intro x hx
  rcases List.mem_append.mp hx with hx | hx
  · split at hx
    · rw [List.mem_singleton.mp hx]; exact (isFinalFile_iff _).mpr (.inr (.inl rfl))
    · cases hx
  · rw [List.mem_singleton.mp hx]; exact (isFinalFile_iff _).mpr (.inl rfl)

theorem centroids_ne_clusters : "cluster-centroids-packed.pkl" ≠ "clusters.pkl" := by decide

theorem read_finalWrites (c : Cfg) (cl : List Clu) (fs : FS) :
    (writeAll fs (finalWrites c cl)).read "clusters.pkl" = some (.clusters (cl.map (·.ids))) := by
  rw [finalWrites, writeAll_append, writeAll_cons, writeAll_nil, read_write, if_pos rfl]

theorem read_result_clusters (c : Cfg) (fs : FS) (ws : Writes) (cl : List Clu) :
    (finish c (writeAll fs (ws ++ finalWrites c cl))).read "clusters.pkl" = some (.clusters (cl.map (·.ids))) := by
  rw [read_finish_of_not_round c _ isRoundFile_clusters, writeAll_append, read_finalWrites]

theorem read_result_centroids (c : Cfg) (hc : c.saveCentroids = true) (fs : FS) (ws : Writes) (cl : List Clu) :
    (finish c (writeAll fs (ws ++ finalWrites c cl))).read "cluster-centroids-packed.pkl" =
      some (.centroids (cl.map (·.cent))) := by
  rw [read_finish_of_not_round c _ isRoundFile_centroids, writeAll_append, finalWrites, hc, if_pos rfl]
  -- the centroid file is written first, the cluster file over it does not touch it
  simp only [List.singleton_append, writeAll_cons, writeAll_nil, read_write, if_neg centroids_ne_clusters, if_pos]

/-! ## what earlier runs left in the directory -/

/-- the names the workflow owns: intermediate round files and final files -/
def owned (n : String) : Bool := isRoundFile n || isFinalFile n

theorem owned_iff {n : String} : owned n = true ↔ isRoundFile n = true ∨ isFinalFile n = true := by simp [owned]

theorem owned_of_round {n : String} (h : isRoundFile n = true) : owned n = true := owned_iff.mpr (.inl h)

theorem owned_of_final {n : String} (h : isFinalFile n = true) : owned n = true := owned_iff.mpr (.inr h)

theorem not_owned {n : String} (h1 : isRoundFile n = false) (h2 : isFinalFile n = false) : owned n = false := by
  simp [owned, h1, h2]

variable {pol} in
theorem RunLog.owned {c : Cfg} {files : List (List Row)} {fs : FS} {ws : Writes} {cl : List Clu}
    (h : RunLog pol c files fs ws cl) : ∀ x ∈ ws ++ finalWrites c cl, owned x.1 = true := by
  intro x hx
  rcases List.mem_append.mp hx with hx | hx
  · exact owned_of_round (h.roundFiles x hx)
  · exact owned_of_final (finalWrites_final c cl x hx)

/-- the tasks of a round see only the round files of a (well-formed) directory -/
structure Same (a b : FS) : Prop where
  wfa : a.WF
  wfb : b.WF
  round : ∀ n, isRoundFile n = true → a.read n = b.read n

theorem Same.symm {a b : FS} (h : Same a b) : Same b a := ⟨h.wfb, h.wfa, fun n hn => (h.round n hn).symm⟩

theorem read_writeAll_congr {a b : FS} {n : String} (h : a.read n = b.read n) (ws : Writes) :
    (writeAll a ws).read n = (writeAll b ws).read n := by
  induction ws generalizing a b with
  | nil => exact h
  | cons w ws ih => exact ih (by rw [read_write, read_write, h])

theorem Same.writeAll {a b : FS} (h : Same a b) (ws : Writes) : Same (writeAll a ws) (writeAll b ws) :=
  ⟨WF_writeAll h.wfa _, WF_writeAll h.wfb _, fun n hn => read_writeAll_congr (h.round n hn) ws⟩

theorem Same.listing_eq {a b : FS} (s : Same a b) {m : String → Bool} (hr : ∀ n, m n = true → isRoundFile n = true) :
    (a.names.filter m).mergeSort (· ≤ ·) = (b.names.filter m).mergeSort (· ≤ ·) := by
  apply mergeSort_names_perm
  rw [List.perm_ext_iff_of_nodup (listing_nodup s.wfa hr) (listing_nodup s.wfb hr)]
  intro n
  rw [mem_listing, mem_listing]
  exact and_congr_left fun h2 => by rw [s.round n (hr n h2)]

theorem Same.pairs_eq {a b : FS} (s : Same a b) (r : Nat) : prevPairs a r = prevPairs b r := by
  rw [prevPairs_eq, prevPairs_eq, s.listing_eq (m := matchB (r - 1)) fun _ => isRoundFile_of_matchK (k := .buf),
    s.listing_eq (m := matchI (r - 1)) fun _ => isRoundFile_of_matchK (k := .idx)]

theorem Same.read_pair {a b : FS} (s : Same a b) {r : Nat} {p : String × String} (hp : p ∈ prevPairs a r) :
    a.read p.1 = b.read p.1 ∧ a.read p.2 = b.read p.2 :=
  have h := of_mem_prevPairs hp
  ⟨s.round _ (isRoundFile_of_matchK (k := .buf) h.1.2), s.round _ (isRoundFile_of_matchK (k := .idx) h.2.2)⟩

theorem fitPairs_congr {a b : FS} : ∀ (pairs : List (String × String)) (e : Est),
    (∀ p ∈ pairs, a.read p.1 = b.read p.1 ∧ a.read p.2 = b.read p.2) →
    fitPairs pol a e pairs = fitPairs pol b e pairs
  | [], e, _ => by simp [fitPairs]
  | p :: rest, e, h => by
    have h0 : pairUnits a p = pairUnits b p := by simp only [pairUnits, (h p (by simp)).1, (h p (by simp)).2]
    have ih := fun e' => fitPairs_congr rest e' (fun p hp => h p (List.mem_cons_of_mem _ hp))
    simp only [fitPairs, h0, ih]

theorem mergedEst_congr {a b : FS} {pairs : List (String × String)}
    (h : ∀ p ∈ pairs, a.read p.1 = b.read p.1 ∧ a.read p.2 = b.read p.2) (bf : Nat) (thr : Rat) (crit : String)
    (tol : Rat) : mergedEst pol bf thr crit tol a pairs = mergedEst pol bf thr crit tol b pairs := by
  simp only [mergedEst, fitPairs_congr pol pairs _ h]

theorem Same.midTasks_eq {a b : FS} (s : Same a b) (c : Cfg) (allRows : List Row) (r : Nat) :
    midTasks pol c allRows r a = midTasks pol c allRows r b := by
  unfold midTasks
  rw [← s.pairs_eq r]
  apply List.map_congr_left
  intro bt hbt
  simp only [mergingTask, mergingGroups, mergedEst_congr pol fun p hp => s.read_pair (batches_mem hbt hp)]

variable {pol} in
theorem MidLog.congr {c : Cfg} {allRows : List Row} {k r : Nat} {a : FS} {ws : Writes}
    (h : MidLog pol c allRows k r a ws) : ∀ {b : FS}, Same a b → MidLog pol c allRows k r b ws := by
  induction h with
  | zero r fs => intro b _; exact .zero r b
  | succ e _ ih =>
    intro b s
    exact .succ (by rw [← s.midTasks_eq pol]; exact e) (ih (s.writeAll _))

variable {pol} in
theorem RunLog.congr {c : Cfg} {files : List (List Row)} {a b : FS} {ws : Writes} {cl : List Clu}
    (h : RunLog pol c files a ws cl) (s : Same a b) : RunLog pol c files b ws cl := by
  obtain @⟨wss, ws2, _, e, hl, hcl⟩ := h
  have s' := s.writeAll (wss.flatten ++ ws2)
  refine .mk e (hl.congr (s.writeAll _)) ?_
  rw [← hcl, ← s'.pairs_eq]
  simp only [finalClus, mergedEst_congr pol fun p hp => s'.read_pair hp]

theorem read_purge (fs0 : FS) (n : String) : (purge fs0).read n = if owned n then none else fs0.read n :=
  read_remove fs0 _ n

theorem same_purge (fs0 : FS) : Same (purge fs0) [] :=
  ⟨WF_purge fs0, List.Pairwise.nil, fun n hn => by rw [read_purge, owned_of_round hn]; rfl⟩

theorem multiround_fresh_iff (c : Cfg) (files : List (List Row)) (sched : Nat → List Nat → List Nat) (fs0 fs : FS) :
    multiround pol c files sched fs0 = .ok fs ↔
      ∃ ws cl, RunLog pol c files [] ws cl ∧
        fs = finish c (writeAll (purge fs0) (ws ++ finalWrites c cl)) := by
  rw [multiround_ok_iff]
  exact exists₂_congr fun ws cl => and_congr_left'
    ⟨(·.congr (same_purge fs0)), (·.congr (same_purge fs0).symm)⟩

end BB.MR
