/-
The trace of directory states of a run (`multiroundTrace`, BBModel/Multiround.lean): after the purge, after
every single file write, after the cleanup.  The traced functions compute the plain ones
(`multiroundTrace_snd`), and the cluster file appears with the very last write (`multiroundTrace_commits`).
Both are facts about one way of putting traced steps together (`thenT`), proved once for it.  Only
BBProps/C14.lean uses this module.
-/
import BBProofs.RunLog

namespace BB.MR
open BB

variable (pol : BB.Cfg → Policy)

/-- the cluster file is absent -/
def NoCF (fs : FS) : Prop := fs.read "clusters.pkl" = none

theorem purge_noCF (fs0 : FS) : NoCF (purge fs0) := by
  rw [NoCF, read_purge, owned_of_final ((isFinalFile_iff _).mpr (.inl rfl))]
  rfl

/-- a traced step, then (if it succeeded) another one from its result: the shape of every traced function
of the model -/
def thenT (p : List FS × Except Err FS) (g : FS → List FS × Except Err FS) : List FS × Except Err FS :=
  match p with
  | (tr, .error e) => (tr, .error e)
  | (tr, .ok fs) => (tr ++ (g fs).1, (g fs).2)

theorem thenT_snd (p : List FS × Except Err FS) (g : FS → List FS × Except Err FS) :
    (thenT p g).2 = p.2 >>= fun fs => (g fs).2 := by
  obtain ⟨tr, x⟩ := p
  cases x <;> rfl

/-- a traced step that shows the cluster file neither on its way nor in its result -/
def Clean (p : List FS × Except Err FS) : Prop := (∀ s ∈ p.1, NoCF s) ∧ ∀ fs, p.2 = .ok fs → NoCF fs

theorem Clean.nil {fs : FS} (h : NoCF fs) : Clean ([], .ok fs) := ⟨nofun, fun _ e => Except.ok.inj e ▸ h⟩

theorem Clean.andThen {p : List FS × Except Err FS} {g : FS → List FS × Except Err FS} (hp : Clean p)
    (hg : ∀ fs, NoCF fs → Clean (g fs)) : Clean (thenT p g) := by
  obtain ⟨tr, x⟩ := p
  cases x with
  | error e => exact ⟨hp.1, nofun⟩
  | ok fs => exact ⟨List.forall_mem_append.mpr ⟨hp.1, (hg fs (hp.2 fs rfl)).1⟩, (hg fs (hp.2 fs rfl)).2⟩

/-- a traced step that fails without ever showing the cluster file, or shows it from a state `fs3` on
that is the last one or, with the cleanup, the last but one -/
def Commits (cleanup : Bool) (p : List FS × Except Err FS) : Prop :=
  ∃ pre, (∀ s ∈ pre, NoCF s) ∧
    ((∃ e, p = (pre, .error e)) ∨
      ∃ fs3 cl, fs3.read "clusters.pkl" = some (.clusters cl) ∧
        p = if cleanup then (pre ++ [fs3, fs3.remove isRoundFile], .ok (fs3.remove isRoundFile))
            else (pre ++ [fs3], .ok fs3))

theorem Clean.commits_thenT {cleanup : Bool} {p : List FS × Except Err FS} {g : FS → List FS × Except Err FS}
    (hp : Clean p) (hg : ∀ fs, NoCF fs → Commits cleanup (g fs)) : Commits cleanup (thenT p g) := by
  obtain ⟨tr, x⟩ := p
  cases x with
  | error e => exact ⟨tr, hp.1, .inl ⟨e, rfl⟩⟩
  | ok fs =>
    obtain ⟨pre, hpre, ⟨e, h⟩ | ⟨fs3, cl, hcf, h⟩⟩ := hg fs (hp.2 fs rfl)
    · exact ⟨tr ++ pre, List.forall_mem_append.mpr ⟨hp.1, hpre⟩, .inl ⟨e, by rw [thenT, h]⟩⟩
    · refine ⟨tr ++ pre, List.forall_mem_append.mpr ⟨hp.1, hpre⟩, .inr ⟨fs3, cl, hcf, ?_⟩⟩
      rw [thenT, h]
      split <;> simp only [List.append_assoc]

theorem writeTrace_append (a b : Writes) : ∀ fs : FS,
    writeTrace fs (a ++ b) = writeTrace fs a ++ writeTrace (writeAll fs a) b := by
  induction a with
  | nil => intro fs; rfl
  | cons x a ih => intro fs; simp only [List.cons_append, writeTrace, ih, writeAll_cons]

theorem writeTrace_getLast (ws : Writes) (hne : ws ≠ []) : ∀ (fs : FS),
    (writeTrace fs ws).getLast? = some (writeAll fs ws) := by
  induction ws with
  | nil => exact absurd rfl hne
  | cons w ws ih =>
    intro fs
    cases ws with
    | nil => simp [writeTrace, writeAll]
    | cons v vs =>
      have := ih (by simp) (fs.write w.1 w.2)
      rw [writeTrace, writeAll_cons, List.getLast?_cons_of_ne_nil (by simp [writeTrace]), this]

theorem writeTrace_clean (ws : Writes) : ∀ (fs : FS), NoCF fs → (∀ x ∈ ws, x.1 ≠ "clusters.pkl") →
    Clean (writeTrace fs ws, .ok (writeAll fs ws)) := by
  induction ws with
  | nil => intro fs h _; exact .nil h
  | cons w ws ih =>
    intro fs h hw
    have h1 : NoCF (fs.write w.1 w.2) := by
      unfold NoCF at h ⊢
      rw [read_write, if_neg (Ne.symm (hw w (by simp))), h]
    have hc := ih _ h1 (fun x hx => hw x (List.mem_cons_of_mem _ hx))
    exact ⟨List.forall_mem_cons.mpr ⟨h1, hc.1⟩, hc.2⟩

theorem execRoundT_cons_ok (fs : FS) (ws : Writes) (ts : List (Except Err Writes)) :
    execRoundT fs (.ok ws :: ts) = thenT (writeTrace fs ws, .ok (writeAll fs ws)) fun fs' => execRoundT fs' ts := rfl

theorem execRoundT_snd (ts : List (Except Err Writes)) : ∀ fs : FS, (execRoundT fs ts).2 = execRound fs ts := by
  induction ts with
  | nil => intro fs; rfl
  | cons t ts ih =>
    intro fs
    cases t with
    | error e => rw [execRound_cons_error]; rfl
    | ok ws => rw [execRound_cons_ok, ← ih]; rfl

theorem execRoundT_clean {ts : List (Except Err Writes)} (ht : RoundTasks ts) : ∀ fs : FS, NoCF fs →
    Clean (execRoundT fs ts) := by
  induction ts with
  | nil => exact fun fs h => .nil h
  | cons t ts ih =>
    intro fs h
    have ht' : RoundTasks ts := fun t' ht' => ht t' (List.mem_cons_of_mem _ ht')
    cases t with
    | error e => exact ⟨by simp [execRoundT], nofun⟩
    | ok ws =>
      rw [execRoundT_cons_ok]
      refine (writeTrace_clean ws fs h fun x hx he => ?_).andThen fun fs' h' => ih ht' fs' h'
      have hr := ht (.ok ws) (by simp) ws rfl x hx
      rw [he, isRoundFile_clusters] at hr
      cases hr

theorem RoundTasks.getD {tasks : List (Except Err Writes)} (ht : RoundTasks tasks) (order : List Nat) :
    RoundTasks (order.map fun i => tasks.getD i (.error .value)) := by
  intro t hmem w hw
  obtain ⟨i, _, rfl⟩ := List.mem_map.mp hmem
  rw [List.getD_eq_getElem?_getD] at hw
  cases hg : tasks[i]? with
  | none => rw [hg] at hw; cases hw
  | some t' => exact ht t' (List.mem_of_getElem? hg) w (by rwa [hg] at hw)

theorem runTasksT_snd (fs : FS) (tasks : List (Except Err Writes)) (order : List Nat) :
    (runTasksT fs tasks order).2 = runTasks fs tasks order := execRoundT_snd _ _

theorem runTasksT_clean {tasks : List (Except Err Writes)} (ht : RoundTasks tasks) (order : List Nat) (fs : FS)
    (h : NoCF fs) : Clean (runTasksT fs tasks order) := execRoundT_clean (ht.getD order) fs h

theorem midRoundsT_succ (c : Cfg) (allRows : List Row) (sched : Nat → List Nat → List Nat) (k r : Nat) (fs : FS) :
    midRoundsT pol c allRows sched (k + 1) r fs =
      thenT (runTasksT fs (midTasks pol c allRows r fs) (orderOf sched r (midTasks pol c allRows r fs).length))
        (midRoundsT pol c allRows sched k (r + 1)) := by
  unfold midRoundsT thenT
  split <;> rename_i h <;> simp only [h]

theorem midRoundsT_snd (c : Cfg) (allRows : List Row) (sched : Nat → List Nat → List Nat) :
    ∀ (k r : Nat) (fs : FS), (midRoundsT pol c allRows sched k r fs).2 = midRounds pol c allRows sched k r fs
  | 0, _, _ => rfl
  | k + 1, r, fs => by
    rw [midRoundsT_succ, thenT_snd, runTasksT_snd, midRounds_succ]
    exact congrArg _ (funext fun fs' => midRoundsT_snd c allRows sched k (r + 1) fs')

theorem midRoundsT_clean (c : Cfg) (allRows : List Row) (sched : Nat → List Nat → List Nat) :
    ∀ (k r : Nat) (fs : FS), NoCF fs → Clean (midRoundsT pol c allRows sched k r fs)
  | 0, _, _, h => .nil h
  | k + 1, r, fs, h => by
    rw [midRoundsT_succ]
    exact (runTasksT_clean (midTasks_round pol c allRows r fs) _ fs h).andThen
      fun fs' h' => midRoundsT_clean c allRows sched k (r + 1) fs' h'

/-- the final round, traced: the final writes, then the cleanup -/
def lastT (c : Cfg) (fs2 : FS) : List FS × Except Err FS :=
  match finalTask pol c fs2 (prevPairs fs2 (c.nMidRounds + 2)) with
  | .error e => ([], .error e)
  | .ok ws =>
    if c.cleanup then (writeTrace fs2 ws ++ [(writeAll fs2 ws).remove isRoundFile], .ok ((writeAll fs2 ws).remove isRoundFile))
    else (writeTrace fs2 ws, .ok (writeAll fs2 ws))

theorem lastT_snd (c : Cfg) (fs2 : FS) :
    (lastT pol c fs2).2 = finalTask pol c fs2 (prevPairs fs2 (c.nMidRounds + 2)) >>= fun ws =>
      pure (if c.cleanup then (writeAll fs2 ws).remove isRoundFile else writeAll fs2 ws) := by
  unfold lastT
  cases finalTask pol c fs2 (prevPairs fs2 (c.nMidRounds + 2)) with
  | error e => rfl
  | ok ws => simp only; split <;> rfl

theorem writeTrace_finalWrites (c : Cfg) (cl : List Clu) (fs : FS) (h : NoCF fs) :
    ∃ pre, (∀ s ∈ pre, NoCF s) ∧ writeTrace fs (finalWrites c cl) = pre ++ [writeAll fs (finalWrites c cl)] := by
  refine ⟨writeTrace fs (if c.saveCentroids then
    [("cluster-centroids-packed.pkl", Content.centroids (cl.map (·.cent)))] else []), ?_, ?_⟩
  · refine (writeTrace_clean _ fs h fun x hx => ?_).1
    split at hx
    · rw [List.mem_singleton.mp hx]; exact centroids_ne_clusters
    · cases hx
  · rw [finalWrites, writeTrace_append, writeAll_append]; rfl

theorem lastT_commits (c : Cfg) (fs2 : FS) (h : NoCF fs2) : Commits c.cleanup (lastT pol c fs2) := by
  unfold lastT
  cases hft : finalTask pol c fs2 (prevPairs fs2 (c.nMidRounds + 2)) with
  | error e => exact ⟨[], by simp, .inl ⟨e, rfl⟩⟩
  | ok ws =>
    obtain ⟨cl, _, rfl⟩ := except_map_eq_ok hft
    obtain ⟨t3, hn3, htr⟩ := writeTrace_finalWrites c cl fs2 h
    refine ⟨t3, hn3, .inr ⟨_, _, read_finalWrites c cl fs2, ?_⟩⟩
    simp only [htr, List.append_assoc, List.cons_append, List.nil_append]

theorem multiroundTrace_eq (c : Cfg) (files : List (List Row)) (sched : Nat → List Nat → List Nat) (fs0 : FS) :
    multiroundTrace pol c files sched fs0 =
      let p := thenT (runTasksT (purge fs0) (initTasks pol c files) (orderOf sched 1 (initTasks pol c files).length))
        fun fs1 => thenT (midRoundsT pol c files.flatten sched c.nMidRounds 2 fs1) (lastT pol c)
      (purge fs0 :: p.1, p.2) := by
  unfold multiroundTrace thenT lastT
  simp only
  split
  · rename_i h1; simp only [h1]
  · rename_i h1; simp only [h1]
    split
    · rename_i h2; simp only [h2, List.cons_append]
    · rename_i h2; simp only [h2]
      split
      · rename_i h3; simp only [h3, List.append_nil, List.cons_append]
      · rename_i h3; simp only [h3]
        split <;> simp only [List.cons_append, List.append_assoc]

theorem multiroundTrace_snd (c : Cfg) (files : List (List Row)) (sched : Nat → List Nat → List Nat) (fs0 : FS) :
    (multiroundTrace pol c files sched fs0).2 = multiround pol c files sched fs0 := by
  rw [multiroundTrace_eq, multiround_eq]
  simp only [thenT_snd, runTasksT_snd, midRoundsT_snd, lastT_snd]

theorem multiroundTrace_commits (c : Cfg) (files : List (List Row)) (sched : Nat → List Nat → List Nat) (fs0 : FS) :
    ∃ p, Commits c.cleanup p ∧ multiroundTrace pol c files sched fs0 = (purge fs0 :: p.1, p.2) :=
  ⟨_, (runTasksT_clean (initTasks_round pol c files) (orderOf sched 1 (initTasks pol c files).length) (purge fs0)
      (purge_noCF fs0)).commits_thenT fun fs1 h1 =>
        (midRoundsT_clean pol c files.flatten sched c.nMidRounds 2 fs1 h1).commits_thenT (lastT_commits pol c),
    multiroundTrace_eq pol c files sched fs0⟩

end BB.MR
