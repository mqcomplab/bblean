/-
iSIM (`jt_isim_from_sum`) — exactness below 2^52, order invariance, the two-row case
(Tanimoto), and the complementary similarities.

Everything that is needed from floating-point rounding is taken through the hypothesis
`IsRounding rnd` (`BBProofs/Rounding.lean`); `rnd` is never unfolded here.
-/
import BBModel.Similarity
import BBProofs.Bits
import BBProofs.Rounding
import Mathlib.Tactic.Ring
import Mathlib.Tactic.Linarith
import Mathlib.Tactic.Positivity
import Mathlib.Algebra.BigOperators.Group.List.Basic
import Mathlib.Data.List.Perm.Basic
import Mathlib.Algebra.Group.Nat.Even

namespace BB

theorem IsRounding.nonpos {r : ℚ → ℚ} (hr : IsRounding r) {x : ℚ} (h : x ≤ 0) : r x ≤ 0 :=
  hr.zero ▸ hr.mono h

/-- `Σ C(k,2)` -/
def pairSum (ks : List Nat) : Nat := (ks.map (fun k => k * (k - 1) / 2)).sum

/-- `Σ [C(k,2) + k(n−k)]` -/
def denSum (ks : List Nat) (n : Nat) : Nat :=
  (ks.map (fun k => k * (k - 1) / 2 + k * (n - k))).sum

def exactIsim (ks : List Nat) (n : Nat) : ℚ :=
  ((ks.map (fun k => (k * (k - 1) / 2 : Nat))).sum : ℚ) /
  ((ks.map (fun k => (k * (k - 1) / 2 + k * (n - k) : Nat))).sum : ℚ)

theorem exactIsim_eq (ks : List Nat) (n : Nat) :
    exactIsim ks n = (pairSum ks : ℚ) / (denSum ks n : ℚ) := rfl

def sqSum (ks : List Nat) : Nat := (ks.map (fun k => k * k)).sum

theorem pairSum_cons (k : Nat) (ks : List Nat) : pairSum (k :: ks) = k * (k - 1) / 2 + pairSum ks := rfl

theorem denSum_cons (k : Nat) (ks : List Nat) (n : Nat) :
    denSum (k :: ks) n = k * (k - 1) / 2 + k * (n - k) + denSum ks n := rfl

theorem sqSum_cons (k : Nat) (ks : List Nat) : sqSum (k :: ks) = k * k + sqSum ks := rfl

theorem choose_two_elem (k : Nat) : 2 * (k * (k - 1) / 2) + k = k * k := by
  rw [Nat.two_mul_div_two_of_even (Nat.even_mul_pred_self k)]
  cases k with
  | zero => rfl
  | succ k => simp only [Nat.add_sub_cancel]; ring

theorem two_pairSum (ks : List Nat) : 2 * pairSum ks + ks.sum = sqSum ks := by
  induction ks with
  | nil => rfl
  | cons k ks ih =>
    rw [pairSum_cons, sqSum_cons, List.sum_cons]
    have := choose_two_elem k
    omega

theorem denSum_add_sqSum (ks : List Nat) (n : Nat) (hk : ∀ k ∈ ks, k ≤ n) :
    denSum ks n + sqSum ks = pairSum ks + n * ks.sum := by
  induction ks with
  | nil => rfl
  | cons k ks ih =>
    rw [denSum_cons, pairSum_cons, sqSum_cons, List.sum_cons]
    have ih' := ih (fun x hx => hk x (List.mem_cons_of_mem _ hx))
    have hkn : k ≤ n := hk k List.mem_cons_self
    have e : k * (n - k) + k * k = n * k := by
      obtain ⟨d, rfl⟩ := Nat.exists_eq_add_of_le hkn
      simp only [Nat.add_sub_cancel_left]; ring
    rw [Nat.mul_add]
    omega

theorem sqSum_le (ks : List Nat) (n : Nat) (hk : ∀ k ∈ ks, k ≤ n) :
    sqSum ks ≤ n * ks.sum := by
  induction ks with
  | nil => exact Nat.zero_le _
  | cons k ks ih =>
    rw [sqSum_cons, List.sum_cons]
    have ih' := ih (fun x hx => hk x (List.mem_cons_of_mem _ hx))
    have hkn : k ≤ n := hk k List.mem_cons_self
    have : k * k ≤ n * k := Nat.mul_le_mul_right k hkn
    rw [Nat.mul_add]
    omega

theorem sum_le_sqSum (ks : List Nat) : ks.sum ≤ sqSum ks := by
  have := two_pairSum ks
  omega

theorem sum_le_mul_sum (ks : List Nat) (n : Nat) (hk : ∀ k ∈ ks, k ≤ n) :
    ks.sum ≤ n * ks.sum := (sum_le_sqSum ks).trans (sqSum_le ks n hk)

/-! The three branches of `isimFromSum`. -/

theorem isim_none (ks : List Nat) (n : Nat) (h : n < 2) : isimFromSum ks n = none := by
  rw [isimFromSum, if_pos h]

theorem isim_of_sum_zero (ks : List Nat) (n : Nat) (hn : 2 ≤ n) (h0 : u64 ks.sum = 0) :
    isimFromSum ks n = some 1 := by
  rw [isimFromSum, if_neg (Nat.not_lt.mpr hn)]
  exact if_pos h0

theorem isim_of_sum_ne_zero (ks : List Nat) (n : Nat) (hn : 2 ≤ n) (h0 : u64 ks.sum ≠ 0) :
    isimFromSum ks n =
      let a := ofNat (u64 (u64 (sqSum ks) + 2 ^ 64 - u64 ks.sum)) / 2
      some (fdiv a (fsub (fadd a (ofNat (u64 (n * u64 ks.sum)))) (ofNat (u64 (sqSum ks))))) := by
  rw [isimFromSum, if_neg (Nat.not_lt.mpr hn)]
  exact if_neg h0

theorem isim_isSome (ks : List Nat) (n : Nat) (h : 2 ≤ n) : (isimFromSum ks n).isSome := by
  by_cases h0 : u64 ks.sum = 0
  · rw [isim_of_sum_zero ks n h h0]; rfl
  · rw [isim_of_sum_ne_zero ks n h h0]; rfl

/-- `isimFromSum` looks at the sum and the sum of squares only -/
theorem isimFromSum_congr {ks ks' : List Nat} (n : Nat) (h1 : ks.sum = ks'.sum)
    (h2 : sqSum ks = sqSum ks') : isimFromSum ks n = isimFromSum ks' n := by
  unfold sqSum at h2
  unfold isimFromSum
  rw [h1, h2]

/-- below `2^64` none of the four `uint64` values of `jt_isim_from_sum` wraps -/
theorem isim_no_wrap (ks : List Nat) (n : Nat) (hk : ∀ k ∈ ks, k ≤ n) (hb : n * ks.sum < 2 ^ 64) :
    u64 ks.sum = ks.sum ∧ u64 (sqSum ks) = sqSum ks ∧ u64 (n * ks.sum) = n * ks.sum ∧
    u64 (sqSum ks + 2 ^ 64 - ks.sum) = sqSum ks - ks.sum := by
  have h1 : sqSum ks ≤ n * ks.sum := sqSum_le ks n hk
  have h2 : ks.sum ≤ sqSum ks := sum_le_sqSum ks
  unfold u64
  refine ⟨Nat.mod_eq_of_lt (by omega), Nat.mod_eq_of_lt (by omega), Nat.mod_eq_of_lt hb, ?_⟩
  generalize sqSum ks = Q at *
  generalize ks.sum = S at *
  generalize n * S = N at *
  omega

theorem isim_den_pos (ks : List Nat) (n : Nat) (hn : 2 ≤ n) (hk : ∀ k ∈ ks, k ≤ n)
    (hS : 0 < ks.sum) : 0 < denSum ks n := by
  -- were the sum zero, every term would be, hence every `k`: below `n` the second term of a positive `k`
  -- is positive, at `n ≥ 2` the first
  refine Nat.pos_of_ne_zero fun h0 => hS.ne' (List.sum_eq_zero_iff.mpr fun k hmem => ?_)
  have hterm := List.sum_eq_zero_iff.mp h0 _ (List.mem_map_of_mem (f := fun k => k * (k - 1) / 2 + k * (n - k)) hmem)
  by_contra hk0
  rcases (hk k hmem).lt_or_eq with h | rfl
  · exact absurd hterm (Nat.add_pos_right _ (Nat.mul_pos (Nat.pos_of_ne_zero hk0) (Nat.sub_pos_of_lt h))).ne'
  · exact absurd hterm
      (Nat.add_pos_left (Nat.div_pos (Nat.mul_le_mul hn (Nat.le_sub_one_of_lt hn)) Nat.two_pos) _).ne'

theorem isim_of_no_wrap (ks : List Nat) (n : Nat) (hn : 2 ≤ n) (hk : ∀ k ∈ ks, k ≤ n)
    (hS : 0 < ks.sum) (hb : n * ks.sum < 2 ^ 64) :
    isimFromSum ks n =
      some (fdiv (ofNat (sqSum ks - ks.sum) / 2)
        (fsub (fadd (ofNat (sqSum ks - ks.sum) / 2) (ofNat (n * ks.sum))) (ofNat (sqSum ks)))) := by
  obtain ⟨h1, h2, h3, h4⟩ := isim_no_wrap ks n hk hb
  rw [isim_of_sum_ne_zero ks n hn (by omega)]
  simp only [h1, h2, h3, h4]

theorem isim_num (hr : IsRounding rnd) (ks : List Nat) :
    ofNat (sqSum ks - ks.sum) / 2 = rnd (pairSum ks) := by
  have e1 := two_pairSum ks
  unfold ofNat
  rw [show sqSum ks - ks.sum = 2 * pairSum ks by omega, ← hr.half]
  congr 1
  push_cast
  ring

theorem isim_exact (hr : IsRounding rnd) (ks : List Nat) (n : Nat) (hn : 2 ≤ n)
    (hk : ∀ k ∈ ks, k ≤ n) (hS : 0 < ks.sum) (hb : n * ks.sum < 2 ^ 52) :
    isimFromSum ks n = some (rnd (exactIsim ks n)) := by
  have e1 := two_pairSum ks
  have e2 := denSum_add_sqSum ks n hk
  have e3 := sqSum_le ks n hk
  -- every intermediate value is an integer below 2^53, hence not rounded; the largest is the float sum `P + n·Σk`,
  -- below `2·n·Σk`: this is why the bound is 2^52 and not 2^53
  have hsub : ((pairSum ks + n * ks.sum : ℕ) : ℚ) - (sqSum ks : ℚ) = (denSum ks n : ℚ) :=
    sub_eq_of_eq_add (by exact_mod_cast e2.symm)
  rw [isim_of_no_wrap ks n hn hk hS (by omega), isim_num hr]
  unfold fdiv fsub fadd ofNat
  rw [hr.fix_nat (pairSum ks) (by omega), hr.fix_nat (n * ks.sum) (by omega), hr.fix_nat (sqSum ks) (by omega),
    ← Nat.cast_add, hr.fix_nat _ (by omega), hsub, hr.fix_nat _ (by omega)]
  rfl

theorem pairSum_le_denSum (ks : List Nat) (n : Nat) : pairSum ks ≤ denSum ks n :=
  List.sum_le_sum (fun _ _ => Nat.le_add_right _ _)

theorem exactIsim_nonneg (ks : List Nat) (n : Nat) : 0 ≤ exactIsim ks n := by
  rw [exactIsim_eq]; exact div_nonneg (Nat.cast_nonneg _) (Nat.cast_nonneg _)

theorem exactIsim_le_one (ks : List Nat) (n : Nat) : exactIsim ks n ≤ 1 := by
  rw [exactIsim_eq]
  apply div_le_one_of_le₀
  · exact Nat.cast_le.mpr (pairSum_le_denSum ks n)
  · exact Nat.cast_nonneg _

@[simp] theorem addLs_cons_cons_I (x y : Nat) (a b : List Nat) :
    addLs (x :: a) (y :: b) = (x + y) :: addLs a b := rfl

theorem isimRows_perm {rows rows' : List Row} (h : rows.Perm rows') :
    isimRows rows = isimRows rows' := by
  unfold isimRows
  rw [colSum_perm h, h.length_eq]

theorem colSum_pair (a b : Row) : colSum [a, b] = addLs (rowToNat a) (rowToNat b) := by
  rw [colSum_cons, colSum_cons, colSum_nil, addLs_nil_right]

/-- a column of two rows: the count `k` of its set bits, `C(k,2)` and `k·(2−k)`, bit by bit -/
theorem pair_elem (x y : Bool) :
    let k := b2n x + b2n y
    k ≤ 2 ∧ k * (k - 1) / 2 = b2n (x && y) ∧ k * (k - 1) / 2 + k * (2 - k) + b2n (x && y) = k := by
  cases x <;> cases y <;> decide

/-- the column counts of two rows, in the four forms `isim_pair` uses; one induction over the bits -/
theorem pair_counts (a b : Row) (hl : a.length = b.length) :
    (addLs (rowToNat a) (rowToNat b)).sum = popc a + popc b ∧
    pairSum (addLs (rowToNat a) (rowToNat b)) = popc (andRow a b) ∧
    denSum (addLs (rowToNat a) (rowToNat b)) 2 + popc (andRow a b) = popc a + popc b ∧
    ∀ k ∈ addLs (rowToNat a) (rowToNat b), k ≤ 2 := by
  induction a, b, hl using length_eq_induction with
  | nil => exact ⟨rfl, rfl, rfl, fun _ h => absurd h List.not_mem_nil⟩
  | cons x a y b _ ih =>
    obtain ⟨h1, h2, h3, h4⟩ := ih
    obtain ⟨e1, e2, e3⟩ := pair_elem x y
    rw [rowToNat_cons, rowToNat_cons, addLs_cons_cons, andRow_cons_cons, List.sum_cons, pairSum_cons, denSum_cons,
      popc_cons, popc_cons, popc_cons]
    exact ⟨by omega, by omega, by omega, List.forall_mem_cons.mpr ⟨e1, h4⟩⟩

theorem isim_pair (hr : IsRounding rnd) (a b : Row) (hl : a.length = b.length)
    (hu : 0 < popc a + popc b) (hb : 2 * (popc a + popc b) < 2 ^ 52) :
    isimFromSum (colSum [a, b]) 2 = some (jtBits a b) := by
  rw [colSum_pair]
  obtain ⟨h1, h2, h3, h4⟩ := pair_counts a b hl
  have hS : 0 < (addLs (rowToNat a) (rowToNat b)).sum := by omega
  have hden := isim_den_pos _ 2 (le_refl 2) h4 hS
  rw [isim_exact hr _ 2 (le_refl 2) h4 hS (by omega), exactIsim_eq]
  have hmax : max (popc a + popc b - popc (andRow a b)) 1
      = denSum (addLs (rowToNat a) (rowToNat b)) 2 := by omega
  unfold jtBits jtCounts fdiv
  rw [hmax, h2]

theorem subLs_addLs_cancel (y x : List Nat) (h : x.length = y.length) :
    subLs (addLs y x) y = x := by
  unfold subLs
  induction x, y, h using length_eq_induction with
  | nil => rfl
  | cons a x b y _ ih => simp [ih]

theorem subLs_colSum (rows : List Row) (F : Nat) (hF : ∀ r ∈ rows, r.length = F)
    (i : Nat) (hi : i < rows.length) (h2 : 2 ≤ rows.length) :
    subLs (colSum rows) (rowToNat rows[i]) = colSum (rows.eraseIdx i) := by
  have hp : (rows[i] :: rows.eraseIdx i).Perm rows := List.getElem_cons_eraseIdx_perm hi
  rw [← colSum_perm hp, colSum_cons]
  apply subLs_addLs_cancel
  rw [rowToNat_length, hF _ (List.getElem_mem hi)]
  exact colSum_length _ F (fun r hr => hF r (List.mem_of_mem_eraseIdx hr))
    (List.ne_nil_of_length_pos (by rw [List.length_eraseIdx_of_lt hi]; omega))

theorem exactIsim_eq_cast_sum (ks : List Nat) (n : Nat) :
    exactIsim ks n =
      ((ks.map (fun k => ((k * (k - 1) / 2 : Nat) : ℚ))).sum) /
      ((ks.map (fun k => ((k * (k - 1) / 2 + k * (n - k) : Nat) : ℚ))).sum) := by
  unfold exactIsim
  have h : ∀ f : Nat → Nat, (((ks.map f).sum : Nat) : ℚ) = (ks.map (fun k => (f k : ℚ))).sum := fun f => by
    exact (map_list_sum (Nat.castAddMonoidHom ℚ) _).trans (congrArg List.sum (List.map_map ..))
  rw [h, h]

example (ks : List Nat) (n : Nat) : exactIsim ks n =
    (((ks.map (fun k => k * (k - 1) / 2)).sum : Nat) : ℚ) /
    (((ks.map (fun k => k * (k - 1) / 2 + k * (n - k))).sum : Nat) : ℚ) := rfl

end BB
