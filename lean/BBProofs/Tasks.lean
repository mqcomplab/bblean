/-
The tasks of the multi-round workflow: the groups a successful task saves are `Extracted` from the units it
inserted, the rows of a file in round 1 (`initialGroups_spec`), the units read back from pairs of files later
(`mergingGroups_spec`), for any per-cluster predicate closed under merging (`QOK`).  Success is a hypothesis
here (`_spec`) and a conclusion in BBProofs/CliMulti.lean (`_total`); the widths of the fingerprints are free.
`dataOf` and `LabelsFrom` are here because the command line shares them.
-/
import BBProofs.Ops
import BBProofs.Exact
import BBModel.Multiround

namespace BB.MR
open BB

variable (pol : BB.Cfg → Policy)

/-- for the labelling `D` (label ↦ fingerprint).  A fingerprint enters a tree as a row that `fit` wraps
(`row`) or as the one-member buffer that splitting the largest cluster reads (`single`): different units -/
structure QOK (D : Nat → Row) (Q : Clu → Prop) : Prop where
  merge : ∀ c s, Q c → Q s → Q (c.merge s)
  unit : ∀ c, Q c → Q c.asUnit
  row : ∀ i, Q (Clu.ofRow (D i) i)
  single : ∀ i, Q (single (D i) i)

theorem qok_true (D : Nat → Row) : QOK D (fun _ => True) := ⟨by simp, by simp, by simp, by simp⟩

theorem qok_exact (D : Nat → Row) : QOK D (Exact D) :=
  ⟨fun _ _ => exact_merge, fun _ => exact_asUnit, fun _ => exact_ofRow D rfl, fun i => exact_ofBuffer_singleton D i⟩

/-- the labelling `D` agrees with the rows of a file whose first row has the label `start` -/
def LabelsFrom (D : Nat → Row) (start : Nat) (rows : List Row) : Prop :=
  ∀ id r, start ≤ id → rows[id - start]? = some r → D id = r

theorem LabelsFrom.get {D : Nat → Row} {start : Nat} {rows : List Row} (h : LabelsFrom D start rows) {i : Nat}
    (hi : i < rows.length) : D (start + i) = rows[i] :=
  h _ _ (Nat.le_add_right _ _) (by rw [Nat.add_sub_cancel_left, List.getElem?_eq_getElem hi])

/-- merges, whatever the acceptance rule -/
abbrev MCAny := MC (fun _ _ => True)

theorem _root_.BB.MC.any {acc : Clu → Clu → Prop} {A B : Multiset Clu} (h : MC acc A B) : MCAny A B :=
  h.mono (fun _ _ _ => trivial)

theorem MCAny.q {D : Nat → Row} {Q : Clu → Prop} (hQ : QOK D Q) {A B : Multiset Clu} (h : MCAny A B)
    (hA : ∀ c ∈ A, Q c) : ∀ c ∈ B, Q c :=
  MC.forall Q (fun c s hc hs _ => hQ.merge c s hc hs) h hA

/-- the clusters of a list of groups -/
abbrev groupClus (gs : List (W × List Clu)) : Multiset Clu := ((gs.flatMap (·.2) : List Clu) : Multiset Clu)

/-- dtype keys are distinct, every sub-cluster is filed under its own dtype, no group is empty -/
structure GroupsOK (gs : List (W × List Clu)) : Prop where
  nodup : (gs.map (·.1)).Nodup
  keyed : ∀ g ∈ gs, ∀ u ∈ g.2, u.w = g.1
  ne : ∀ g ∈ gs, g.2 ≠ []

theorem addTo_keyed (w : W) (us : List Clu) (acc : List (W × List Clu)) (h : ∀ g ∈ acc, ∀ u ∈ g.2, u.w = g.1)
    (hus : ∀ u ∈ us, u.w = w) : ∀ g ∈ addTo w us acc, ∀ u ∈ g.2, u.w = g.1 := by
  unfold addTo
  split
  · intro g hg u hu
    obtain ⟨g0, hg0, rfl⟩ := List.mem_map.mp hg
    by_cases hw : (g0.1 == w) = true
    · simp only [if_pos hw] at hu ⊢
      rcases List.mem_append.mp hu with hu | hu
      · exact h g0 hg0 u hu
      · rw [hus u hu]; exact (by simpa using hw : g0.1 = w).symm
    · simp only [if_neg hw] at hu ⊢
      exact h g0 hg0 u hu
  · intro g hg u hu
    rcases List.mem_append.mp hg with hg | hg
    · exact h g hg u hu
    · rw [List.mem_singleton.mp hg] at hu ⊢
      exact hus u hu

theorem groupsOK_groupByW (cs : List Clu) : GroupsOK (groupByW cs) := by
  refine ⟨(groupByW_spec cs).1, ?_, (groupByW_spec cs).2.1⟩
  rw [groupByW_eq]
  have key : ∀ (cs : List Clu) (acc : List (W × List Clu)), (∀ g ∈ acc, ∀ u ∈ g.2, u.w = g.1) →
      ∀ g ∈ cs.foldl groupStep acc, ∀ u ∈ g.2, u.w = g.1 := by
    intro cs
    induction cs with
    | nil => intro acc h; exact h
    | cons c cs ih =>
      intro acc h
      exact ih _ (addTo_keyed c.w [c] acc h fun u hu => by rw [List.mem_singleton.mp hu])
  exact key cs [] (by simp)

theorem groupsOK_addToU8 (groups : List (W × List Clu)) (us : List Clu) (h : GroupsOK groups)
    (hus : ∀ u ∈ us, u.w = W.u8) (hne : us ≠ []) : GroupsOK (addToU8 groups us) :=
  have := addTo_spec .u8 us hne ⟨h.nodup, h.ne, rfl⟩
  ⟨this.1, addTo_keyed .u8 us groups h.keyed hus, this.2.1⟩

/-! an estimator without a tree, as `mkEst`, `reset` and `setMerge` on such a one leave it -/

theorem uninit_ok {st : TreeSt} (h : st = .uninit) : st.OK := h ▸ trivial

theorem uninit_lo {st : TreeSt} (h : st = .uninit) : st.isLeavesOnly = false := h ▸ rfl

theorem uninit_F {st : TreeSt} (h : st = .uninit) {F : Nat} : ∀ F', st.F? = some F' → F' = F := h ▸ nofun

theorem uninit_lclusM {st : TreeSt} (h : st = .uninit) : st.lclusM = 0 := h ▸ rfl

theorem mkEst_spec {bf : Nat} {thr : Rat} {crit : String} {tol : Option Rat} {e0 : Est}
    (h : mkEst bf thr crit tol = .ok e0) : e0.st = .uninit ∧ e0.cfg.bf = bf := by
  unfold mkEst construct at h
  split at h
  · cases h
  · cases h; exact ⟨rfl, rfl⟩

theorem fitBuffers_spec {P : Policy} (hP : P.Valid) {e e' : Est} {units : List Clu}
    (hbf : 1 ≤ e.cfg.bf) (hok : e.st.OK) (hlo : e.st.isLeavesOnly = false)
    (h : fitBuffers P e units = (e', none)) :
    e'.cfg = e.cfg ∧ e'.st.OK ∧ e'.st.isLeavesOnly = false ∧
      MCAny (e.st.lclusM + (units : Multiset Clu)) e'.st.lclusM := by
  cases units with
  | nil => simp [fitBuffers] at h
  | cons u0 us =>
    have key := insertAll_spec P hP hbf ((e.st.F?).getD u0.ls.length) hok hlo (u0 :: us)
    unfold fitBuffers at h
    cases hst : e.st
    case leavesOnly F' ls => rw [hst] at hlo; cases hlo
    all_goals
      rw [hst] at h hlo key
      simp only [fitUnits_eq P _ _ _ _ hlo] at h
      split at h
      · cases h
      · cases h; exact ⟨rfl, key.1, key.2.1, key.2.2.any⟩

theorem refitGroups_spec (hpol : ∀ cfg, (pol cfg).Valid) :
    ∀ {gs : List (W × List Clu)} {e e' : Est}, 1 ≤ e.cfg.bf → e.st.OK → e.st.isLeavesOnly = false →
    refitGroups pol e gs = (e', none) →
    e'.cfg = e.cfg ∧ e'.st.OK ∧ e'.st.isLeavesOnly = false ∧
      MCAny (e.st.lclusM + (((gs.flatMap (·.2)).map Clu.asUnit : List Clu) : Multiset Clu)) e'.st.lclusM
  | [], e, e', _, hok, hlo, h => by
    simp only [refitGroups, Prod.mk.injEq, and_true] at h
    subst h
    exact ⟨rfl, hok, hlo, by simpa using MC.refl _⟩
  | g :: gs, e, e', hbf, hok, hlo, h => by
    unfold refitGroups at h
    cases h1 : fitBuffers (pol e.cfg) e (g.2.map Clu.asUnit) with
    | mk e1 err =>
      rw [h1] at h
      cases err with
      | some x => simp at h
      | none =>
        simp only at h
        obtain ⟨c1, ok1, lo1, mc1⟩ := fitBuffers_spec (hpol _) hbf hok hlo h1
        obtain ⟨c2, ok2, lo2, mc2⟩ := refitGroups_spec hpol (by rw [c1]; exact hbf) ok1 lo1 h
        refine ⟨by rw [c2, c1], ok2, lo2, ?_⟩
        simp only [List.flatMap_cons, List.map_append, ← Multiset.coe_add]
        rw [← add_assoc]
        exact (mc1.frame _).trans mc2

theorem delInternal_spec {e e' : Est} (hok : e.st.OK) (h : delInternal e = (e', none)) :
    e'.cfg = e.cfg ∧ e'.st.OK ∧ e'.st.lclusM = e.st.lclusM := by
  obtain rfl : (delInternal e).1 = e' := by rw [h]
  refine ⟨delInternal_cfg e, ?_, delInternal_lclus hok⟩
  rcases delInternal_cases e with h1 | ⟨F, h1⟩ <;> rw [h1]
  exacts [hok, trivial]

theorem setMerge_spec {e e' : Est} {crit : Option CritArg} {tol thr : Option Rat}
    (h : setMerge e crit tol thr none = (e', none)) :
    e'.st = e.st ∧ e'.cfg.bf = e.cfg.bf := by
  obtain ⟨_, _, rfl⟩ := BB.setMerge_ok h
  exact ⟨rfl, rfl⟩

/-- `groups` carries the labels of the clusters `M` (and `Q`, if `M` does) -/
structure Extracted (Q : Clu → Prop) (M : Multiset Clu) (groups : List (W × List Clu)) : Prop where
  ok : GroupsOK groups
  ids : idsOf (groupClus groups) = idsOf M
  q : (∀ c ∈ M, Q c) → ∀ g ∈ groups, ∀ u ∈ g.2, Q u

theorem mem_groupClus {groups : List (W × List Clu)} {g : W × List Clu} {u : Clu} (hg : g ∈ groups) (hu : u ∈ g.2) :
    u ∈ groupClus groups := by
  show u ∈ groups.flatMap (·.2)
  exact List.mem_flatMap.mpr ⟨g, hg, hu⟩

theorem extracted_all (Q : Clu → Prop) (e : Est) (hok : e.st.OK) : Extracted Q e.st.lclusM (allGroups e) := by
  have hflat : groupClus (allGroups e) = e.st.lclusM := by
    unfold groupClus allGroups
    rw [(groupByW_spec _).2.2, sortedClus_coe hok]
  refine ⟨groupsOK_groupByW _, by rw [hflat], ?_⟩
  intro hq g hg u hu
  exact hq u (hflat ▸ mem_groupClus hg hu)

theorem Extracted.of_mc {D : Nat → Row} {Q : Clu → Prop} (hQ : QOK D Q) {A M : Multiset Clu}
    {groups : List (W × List Clu)} (mc : MCAny A M) (hx : Extracted Q M groups) : Extracted Q A groups :=
  ⟨hx.ok, by rw [hx.ids, mc.ids], fun hq => hx.q (mc.q hQ hq)⟩

theorem Extracted.refit {D : Nat → Row} {Q : Clu → Prop} (hQ : QOK D Q) {M M' : Multiset Clu}
    {groups1 groups' : List (W × List Clu)} (h1 : Extracted Q M groups1)
    (mc : MCAny (((groups1.flatMap (·.2)).map Clu.asUnit : List Clu) : Multiset Clu) M')
    (h' : Extracted Q M' groups') : Extracted Q M groups' where
  ok := h'.ok
  ids := by rw [h'.ids, mc.ids, idsOf_map_asUnit]; exact h1.ids
  q := fun hq => h'.q (mc.q hQ fun u hu => by
    simp only [Multiset.mem_coe, List.mem_map, List.mem_flatMap] at hu
    obtain ⟨u0, ⟨g, hg, hu0⟩, rfl⟩ := hu
    exact hQ.unit _ (h1.q hq g hg u0 hu0))

theorem groupsOK_refineGroups {bfs : List Clu} {k : Nat} {data : List Row} {im : Nat} {srt : Bool}
    {groups : List (W × List Clu)} (h : refineGroups bfs k data im srt = .ok groups) : GroupsOK groups := by
  unfold refineGroups at h
  simp only at h
  split at h
  · cases h; exact groupsOK_groupByW _
  · split at h
    · cases h
    · rename_i uss huss
      cases h
      split
      · exact groupsOK_groupByW _
      · rename_i hemp
        refine groupsOK_addToU8 _ _ (groupsOK_groupByW _) ?_ (by simpa using hemp)
        intro u hu
        obtain ⟨id, r, _, _, rfl⟩ := (explodeAllF_spec data im _ (fun c => by
          split; exact List.mergeSort_perm _ _; exact List.Perm.refl _) _ uss huss).2 u hu
        rfl

theorem refineGroupsSorted_eq (bfs : List Clu) (allRows : List Row) :
    refineGroupsSorted bfs allRows = refineGroups bfs 1 allRows 0 true := by
  simp only [refineGroupsSorted, refineGroups, Nat.one_ne_zero, ↓reduceIte]
  cases List.mapM (fun c => explode allRows 0 (c.ids.mergeSort (· ≤ ·))) (List.take 1 bfs) <;> rfl

/-- `_bf_to_np_refine`, in either reading order -/
theorem extracted_refine {D : Nat → Row} {Q : Clu → Prop} (hQ : QOK D Q) (st : TreeSt) (hok : st.OK)
    {rows : List Row} {start : Nat} {srt : Bool} (hD : LabelsFrom D start rows)
    {groups : List (W × List Clu)} (h : refineGroups st.sortedClus 1 rows start srt = .ok groups) :
    Extracted Q st.lclusM groups := by
  refine ⟨groupsOK_refineGroups h, by rw [groupClus, refineGroups_ids h, sortedClus_coe hok],
    fun hq g hg u hu => ?_⟩
  -- a saved sub-cluster is one the tree held, or the singleton of a row
  rcases refineGroups_mem h hg hu with h | ⟨id, r, hle, hr, rfl⟩
  · exact hq u ((TreeSt.mem_sortedClus hok).mp h)
  · rw [← hD id r hle hr]
    exact hQ.single id

/-! ## global indices of the input files -/

/-- start index of every file, the first one starting at `a` -/
def startsFrom : Nat → List (List Row) → List Nat
  | _, [] => []
  | a, f :: fs => a :: startsFrom (a + f.length) fs

theorem foldl_starts (files : List (List Row)) (pre : List Nat) (a : Nat) :
    (files.foldl (fun (acc : List Nat × Nat) f => (acc.1 ++ [acc.2], acc.2 + f.length)) (pre, a)).1
      = pre ++ startsFrom a files := by
  induction files generalizing pre a with
  | nil => simp [startsFrom]
  | cons f fs ih => rw [List.foldl_cons, ih]; simp [startsFrom]

theorem startsFrom_length (a : Nat) (files : List (List Row)) : (startsFrom a files).length = files.length := by
  induction files generalizing a with
  | nil => rfl
  | cons f fs ih => simp [startsFrom, ih]

theorem startsFrom_ranges (a : Nat) (files : List (List Row)) :
    ((files.zip (startsFrom a files)).map (fun p => ((List.range' p.2 p.1.length : List Nat) : Multiset Nat))).sum
      = ((List.range' a (files.map List.length).sum : List Nat) : Multiset Nat) := by
  induction files generalizing a with
  | nil => simp [startsFrom]
  | cons f fs ih =>
    simp only [startsFrom, List.zip_cons_cons, List.map_cons, List.sum_cons, ih]
    rw [Multiset.coe_add, List.range'_append_1]

theorem startsFrom_data (files : List (List Row)) : ∀ (pre : List Row), ∀ p ∈ files.zip (startsFrom pre.length files),
    ∀ i (hi : i < p.1.length), (pre ++ files.flatten)[p.2 + i]? = some p.1[i] := by
  induction files with
  | nil => intro pre p hp; cases hp
  | cons f fs ih =>
    intro pre p hp i hi
    rcases List.mem_cons.mp hp with rfl | hp
    · rw [List.flatten_cons, List.getElem?_append_right (Nat.le_add_right _ _), Nat.add_sub_cancel_left,
        List.getElem?_append_left hi, List.getElem?_eq_getElem hi]
    · rw [List.flatten_cons, ← List.append_assoc]
      exact ih (pre ++ f) p (by rw [List.length_append]; exact hp) i hi

/-- the rows, by global index -/
def dataOf (files : List (List Row)) : Nat → Row := fun i => files.flatten.getD i []

theorem dataOf_get (files : List (List Row)) (id : Nat) (r : Row) (h : files.flatten[id]? = some r) :
    dataOf files id = r := by
  simp [dataOf, List.getD_eq_getElem?_getD, h]

theorem dataOf_eq_getElem (files : List (List Row)) {i : Nat} (hi : i < files.flatten.length) :
    dataOf files i = files.flatten[i] := by
  simp [dataOf, List.getD_eq_getElem?_getD, List.getElem?_eq_getElem hi]

theorem labelsFrom_file (files : List (List Row)) {p : List Row × Nat} (hp : p ∈ files.zip (startsFrom 0 files)) :
    LabelsFrom (dataOf files) p.2 p.1 := by
  intro id r hle hr
  obtain ⟨hi, rfl⟩ := List.getElem?_eq_some_iff.mp hr
  have hget := startsFrom_data files [] p (by simpa using hp) _ hi
  rw [Nat.add_sub_cancel' hle] at hget
  exact dataOf_get files _ _ (by simpa using hget)

theorem labelsFrom_dataOf (files : List (List Row)) : LabelsFrom (dataOf files) 0 files.flatten :=
  fun id r _ hr => dataOf_get files id r hr

/-! ## round 1: one input file -/

theorem fit_fresh_spec {P : Policy} (hP : P.Valid) {e0 e1 : Est} (hst : e0.st = .uninit) (hbf : 1 ≤ e0.cfg.bf)
    {rows : List Row} {labels : List Nat} (h : fit P e0 rows (some labels) = (e1, none)) :
    e1.cfg = e0.cfg ∧ e1.st.OK ∧ e1.st.isLeavesOnly = false ∧
      MCAny (((labels.zip rows).map (fun p => Clu.ofRow p.2 p.1) : List Clu) : Multiset Clu) e1.st.lclusM := by
  cases rows with
  | nil => simp [fit] at h
  | cons r0 rest =>
    have hlo := uninit_lo hst
    rw [fit_fitRows P e0 r0 rest (some labels) hlo] at h
    simp only [fitLabelled, fitRows_eq P _ _ _ _ hlo, Prod.mk.injEq] at h
    obtain ⟨rfl, herr⟩ := h
    -- no error: no row was refused
    have hgood : goodPrefix ((e0.st.F?).getD r0.length) (labels.zip (r0 :: rest)) = labels.zip (r0 :: rest) :=
      (List.takeWhile_prefix _).eq_of_length (by by_contra hne; rw [if_neg (by exact hne)] at herr; cases herr)
    have key := insertAll_spec P hP hbf ((e0.st.F?).getD r0.length) (uninit_ok hst) hlo
      ((labels.zip (r0 :: rest)).map fun p => Clu.ofRow p.2 p.1)
    rw [uninit_lclusM hst, zero_add] at key
    rw [hgood]
    exact ⟨rfl, key.1, key.2.1, key.2.2.any⟩

/-- the units `fit` makes of the rows of a file whose first row has the label `start` -/
abbrev rowUnits (start : Nat) (rows : List Row) : Multiset Clu :=
  ((((List.range' start rows.length).zip rows).map fun p => Clu.ofRow p.2 p.1 : List Clu) : Multiset Clu)

theorem idsOf_rowUnits (start : Nat) (rows : List Row) :
    idsOf (rowUnits start rows) = ((List.range' start rows.length : List Nat) : Multiset Nat) := by
  rw [rowUnits, idsOf_ofRow, List.map_fst_zip (by simp)]

theorem rowUnits_q {D : Nat → Row} {Q : Clu → Prop} (hQ : QOK D Q) {start : Nat} {rows : List Row}
    (hD : LabelsFrom D start rows) : ∀ u ∈ rowUnits start rows, Q u := by
  intro u hu
  simp only [Multiset.mem_coe, List.mem_map] at hu
  obtain ⟨p, hp, rfl⟩ := hu
  obtain ⟨i, hi, rfl⟩ := mem_zip_range' hp
  simp only
  rw [← hD.get hi]
  exact hQ.row _

/-- a successful `_InitialRound.__call__`, one equation per step; the proof only inverts the matches -/
theorem initialGroups_stages {c : Cfg} {rows : List Row} {start : Nat} {groups : List (W × List Clu)} :
    initialGroups pol c rows start = .ok groups ↔
    ∃ e0 e1 e1', mkEst c.bf c.thr c.initCrit none = .ok e0 ∧
      fit (pol e0.cfg) e0 rows (some (List.range' start rows.length)) = (e1, none) ∧
      delInternal e1 = (e1', none) ∧
      ((c.mode = .none ∧ groups = allGroups e1') ∨
        (c.mode = .split ∧ refineGroups e1'.st.sortedClus 1 rows start = .ok groups) ∨
        (c.mode = .full ∧ ∃ groups1 e2 e3 e4, refineGroups e1'.st.sortedClus 1 rows start = .ok groups1 ∧
          setMerge e1'.reset (some (.name c.midCrit)) (some c.tol) (some (fadd c.thr c.thrChange)) none = (e2, none) ∧
          refitGroups pol e2 groups1 = (e3, none) ∧ delInternal e3 = (e4, none) ∧ groups = allGroups e4)) := by
  constructor
  · intro h
    unfold initialGroups at h
    split at h
    · cases h
    rename_i e0 he0
    split at h
    · cases h
    rename_i e1 hfit
    split at h
    · cases h
    rename_i e1' hdel
    refine ⟨e0, e1, e1', he0, hfit, hdel, ?_⟩
    split at h
    · rename_i hmode; exact .inl ⟨hmode, (Except.ok.inj h).symm⟩
    · rename_i hmode; exact .inr (.inl ⟨hmode, h⟩)
    rename_i hmode
    split at h
    · cases h
    rename_i groups1 hg1
    split at h
    · cases h
    rename_i e2 hsm
    split at h
    · cases h
    rename_i e3 hrf
    split at h
    · cases h
    rename_i e4 hd4
    exact .inr (.inr ⟨hmode, groups1, e2, e3, e4, hg1, hsm, hrf, hd4, (Except.ok.inj h).symm⟩)
  · rintro ⟨e0, e1, e1', he0, hfit, hdel, hmode⟩
    unfold initialGroups
    simp only [he0, hfit, hdel]
    rcases hmode with ⟨hm, rfl⟩ | ⟨hm, hg⟩ | ⟨hm, groups1, e2, e3, e4, hg1, hsm, hrf, hd4, rfl⟩
    · simp only [hm]
    · simp only [hm, hg]
    · simp only [hm, hg1, hsm, hrf, hd4]

/-- whatever the refinement mode, the saved groups come from a tree whose clusters were merged from the row
units, directly or through the units of a first tree -/
theorem initialGroups_spec (hpol : ∀ cfg, (pol cfg).Valid) {D : Nat → Row} {Q : Clu → Prop} (hQ : QOK D Q)
    (c : Cfg) (hbf : 1 ≤ c.bf) {rows : List Row} {start : Nat} (hD : LabelsFrom D start rows)
    {groups : List (W × List Clu)} (h : initialGroups pol c rows start = .ok groups) :
    Extracted Q (rowUnits start rows) groups := by
  obtain ⟨e0, e1, e1', he0, hfit, hdel, hmode⟩ := (initialGroups_stages pol).mp h
  obtain ⟨hst0, hbf0⟩ := mkEst_spec he0
  obtain ⟨hc1, ok1, lo1, mc1⟩ := fit_fresh_spec (hpol _) hst0 (by rw [hbf0]; exact hbf) hfit
  obtain ⟨hc1', ok1', hl1'⟩ := delInternal_spec ok1 hdel
  have fin : ∀ groups, Extracted Q e1'.st.lclusM groups → Extracted Q (rowUnits start rows) groups :=
    fun groups hx => hx.of_mc hQ (hl1'.symm ▸ mc1)
  rcases hmode with ⟨_, rfl⟩ | ⟨_, hg⟩ | ⟨_, groups1, e2, e3, e4, hg1, hsm, hrf, hd4, rfl⟩
  · exact fin _ (extracted_all Q e1' ok1')
  · exact fin _ (extracted_refine hQ e1'.st ok1' hD hg)
  · have hx1 := extracted_refine hQ e1'.st ok1' hD hg1
    obtain ⟨hst2, hbf2⟩ := setMerge_spec hsm
    have hst2' : e2.st = .uninit := by rw [hst2]; rfl
    obtain ⟨_, ok3, _, mc3⟩ := refitGroups_spec pol hpol
      (by rw [hbf2]; show 1 ≤ e1'.cfg.bf; rw [hc1', hc1, hbf0]; exact hbf) (uninit_ok hst2') (uninit_lo hst2') hrf
    rw [uninit_lclusM hst2', zero_add] at mc3
    obtain ⟨_, ok4, hl4⟩ := delInternal_spec ok3 hd4
    exact fin _ (hx1.refit hQ mc3 (hl4 ▸ extracted_all Q e4 ok4))

/-! ## later rounds: units read back from pairs of files -/

theorem idsOf_flatMap {α : Type} (f : α → List Clu) (l : List α) :
    idsOf ((l.flatMap f : List Clu) : Multiset Clu) = (l.map (fun a => idsOf (f a : Multiset Clu))).sum := by
  induction l with
  | nil => rfl
  | cons a l ih => rw [List.flatMap_cons, ← Multiset.coe_add, idsOf_add, ih, List.map_cons, List.sum_cons]

/-- the units read back from a pair of files (none if the pair cannot be read) -/
def unitsRead (fs : FS) (p : String × String) : List Clu := (pairUnits fs p).toOption.getD []

theorem unitsRead_of_ok {fs : FS} {p : String × String} {us : List Clu} (h : pairUnits fs p = .ok us) : unitsRead fs p = us := by
  simp [unitsRead, h, Except.toOption]

theorem fitPairs_spec (hpol : ∀ cfg, (pol cfg).Valid) {fs : FS} :
    ∀ {pairs : List (String × String)} {e e' : Est}, 1 ≤ e.cfg.bf → e.st.OK → e.st.isLeavesOnly = false →
    fitPairs pol fs e pairs = .ok e' →
    (∀ p ∈ pairs, ∃ us, pairUnits fs p = .ok us) ∧
      e'.st.OK ∧ MCAny (e.st.lclusM + ((pairs.flatMap (unitsRead fs) : List Clu) : Multiset Clu)) e'.st.lclusM
  | [], e, e', _, hok, _, h => by
    cases h
    exact ⟨by simp, hok, by simpa using MC.refl _⟩
  | p :: rest, e, e', hbf, hok, hlo, h => by
    unfold fitPairs at h
    split at h
    · cases h
    rename_i us hus
    split at h
    · cases h
    rename_i e1 hfb
    obtain ⟨c1, ok1, lo1, mc1⟩ := fitBuffers_spec (hpol _) hbf hok hlo hfb
    obtain ⟨hall, ok', mc'⟩ := fitPairs_spec hpol (by rw [c1]; exact hbf) ok1 lo1 h
    refine ⟨List.forall_mem_cons.mpr ⟨⟨us, hus⟩, hall⟩, ok', ?_⟩
    rw [List.flatMap_cons, unitsRead_of_ok hus, ← Multiset.coe_add, ← add_assoc]
    exact (mc1.frame _).trans mc'

theorem mergedEst_spec (hpol : ∀ cfg, (pol cfg).Valid) {bf : Nat} (hbf : 1 ≤ bf) {thr : Rat} {crit : String}
    {tol : Rat} {fs : FS} {pairs : List (String × String)} {e2 : Est}
    (h : mergedEst pol bf thr crit tol fs pairs = .ok e2) :
    (∀ p ∈ pairs, ∃ us, pairUnits fs p = .ok us) ∧
      e2.st.OK ∧ MCAny ((pairs.flatMap (unitsRead fs) : List Clu) : Multiset Clu) e2.st.lclusM := by
  unfold mergedEst at h
  split at h
  · cases h
  rename_i e0 he0
  split at h
  · cases h
  rename_i e1 hfp
  split at h
  · cases h
  rename_i e2' hdel
  cases h
  obtain ⟨hst0, hbf0⟩ := mkEst_spec he0
  obtain ⟨hall, ok1, mc1⟩ := fitPairs_spec pol hpol (by rw [hbf0]; exact hbf) (uninit_ok hst0) (uninit_lo hst0) hfp
  rw [uninit_lclusM hst0, zero_add] at mc1
  obtain ⟨_, ok2, hl2⟩ := delInternal_spec ok1 hdel
  exact ⟨hall, ok2, by rw [hl2]; exact mc1⟩

/-- the first conjunct (every pair of the batch could be read) is what `readback_ids` needs -/
theorem mergingGroups_spec (hpol : ∀ cfg, (pol cfg).Valid) {D : Nat → Row} {Q : Clu → Prop} (hQ : QOK D Q)
    (c : Cfg) (hbf : 1 ≤ c.bf) {allRows : List Row} (hD : LabelsFrom D 0 allRows)
    {fs : FS} {pairs : List (String × String)} {groups : List (W × List Clu)}
    (h : mergingGroups pol c allRows fs pairs = .ok groups) :
    (∀ p ∈ pairs, ∃ us, pairUnits fs p = .ok us) ∧
      Extracted Q ((pairs.flatMap (unitsRead fs) : List Clu) : Multiset Clu) groups := by
  unfold mergingGroups at h
  split at h
  · cases h
  · rename_i e2 he2
    obtain ⟨hall, ok2, mc2⟩ := mergedEst_spec pol hpol hbf he2
    refine ⟨hall, ?_⟩
    split at h
    · rw [refineGroupsSorted_eq] at h
      exact (extracted_refine hQ e2.st ok2 hD h).of_mc hQ mc2
    · cases h
      exact (extracted_all Q e2 ok2).of_mc hQ mc2

theorem finalClus_spec (hpol : ∀ cfg, (pol cfg).Valid) {D : Nat → Row} {Q : Clu → Prop} (hQ : QOK D Q)
    (c : Cfg) (hbf : 1 ≤ c.bf) {fs : FS} {pairs : List (String × String)} {cl : List Clu}
    (h : finalClus pol c fs pairs = .ok cl) :
    (∀ p ∈ pairs, ∃ us, pairUnits fs p = .ok us) ∧
      idsOf (cl : Multiset Clu) = idsOf ((pairs.flatMap (unitsRead fs) : List Clu) : Multiset Clu) ∧
      ((∀ u ∈ pairs.flatMap (unitsRead fs), Q u) → ∀ u ∈ cl, Q u) := by
  unfold finalClus at h
  split at h
  · cases h
  · rename_i e2 he2
    cases h
    obtain ⟨hall, ok2, mc2⟩ := mergedEst_spec pol hpol hbf he2
    refine ⟨hall, by rw [sortedClus_coe ok2, mc2.ids], fun hq u hu => ?_⟩
    exact mc2.q hQ (fun c hc => hq c hc) u ((TreeSt.mem_sortedClus ok2).mp hu)

end BB.MR
