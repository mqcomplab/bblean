/-
iSIM (`jt_isim_from_sum`) — forward error analysis of the float formula on the whole
no-wrap range `n·Σk < 2^64`.

With `P = Σ C(k,2)`, `Q = Σ k²`, `N = n·Σk`, `D = P + N − Q` (the exact denominator): every
conversion and every operation contributes a factor in `[1 − u, 1 + u]`, `u = 2^-53`.  The factors
are carried along as they are (`Btw lo hi X x`: `lo·X ≤ x ≤ hi·X`): sum, rounding, the one
cancellation `(a + N) − Q` — which, since `Q ≤ 4·D` (from `2·Σk ≤ N`, `Q ≤ N`), moves them away from
`1` at most five times as far —, rounding, quotient, rounding.  Only at the end are the resulting
polynomials in `u` compared with `1 ± 18·u` (`isimErr_lo`, `isimErr_hi`; `17·u` to first order).
The analysis is stated for any small `u`; only `near_rnd` knows that `u = 2^-53`.
-/
import BBProofs.Isim
import BBProofs.Fl
import Mathlib.Tactic.NormNum
import Mathlib.Tactic.Linarith
import Mathlib.Tactic.Ring
import Mathlib.Tactic.Positivity
import Mathlib.Algebra.Order.Field.Basic

namespace BB

def Btw (lo hi X x : ℚ) : Prop := lo * X ≤ x ∧ x ≤ hi * X

/-- `x` is `X` up to the relative error `ε` -/
abbrev Near (ε X x : ℚ) : Prop := Btw (1 - ε) (1 + ε) X x

theorem Btw.add {lo hi X Y x y : ℚ} (h1 : Btw lo hi X x) (h2 : Btw lo hi Y y) : Btw lo hi (X + Y) (x + y) :=
  ⟨(mul_add _ _ _).le.trans (add_le_add h1.1 h2.1), (add_le_add h1.2 h2.2).trans (mul_add _ _ _).ge⟩

theorem Btw.mono {lo lo' hi hi' X x : ℚ} (hlo : lo' ≤ lo) (hhi : hi ≤ hi') (hX : 0 ≤ X)
    (h : Btw lo hi X x) : Btw lo' hi' X x :=
  ⟨(mul_le_mul_of_nonneg_right hlo hX).trans h.1, h.2.trans (mul_le_mul_of_nonneg_right hhi hX)⟩

theorem near_iff {ε X x : ℚ} : Near ε X x ↔ |x - X| ≤ ε * X := by
  rw [abs_le, neg_le_sub_iff_le_add, sub_le_iff_le_add', ← sub_le_iff_le_add]
  show (1 - ε) * X ≤ x ∧ x ≤ (1 + ε) * X ↔ _
  rw [sub_mul, add_mul, one_mul]

theorem Btw.rnd {u lo hi X x y : ℚ} (hu0 : 0 ≤ u) (hu1 : u ≤ 1) (h : Btw lo hi X x)
    (hy : Near u x y) : Btw ((1 - u) * lo) ((1 + u) * hi) X y :=
  ⟨(mul_assoc _ _ _).le.trans ((mul_le_mul_of_nonneg_left h.1 (sub_nonneg.2 hu1)).trans hy.1),
   hy.2.trans ((mul_le_mul_of_nonneg_left h.2 (add_nonneg zero_le_one hu0)).trans (mul_assoc _ _ _).ge)⟩

/-- the one cancellation, `t ≈ D + Q` minus `q ≈ Q`: since `Q ≤ 4·D`, the factors move away from
`1` at most five times as far -/
theorem Btw.sub_amp {u l h D Q t q : ℚ} (hl : l ≤ 1 + u) (hh : 1 - u ≤ h) (hQD : Q ≤ 4 * D)
    (ht : Btw l h (D + Q) t) (hq : Near u Q q) :
    Btw (5 * l - 4 - 4 * u) (5 * h - 4 + 4 * u) D (t - q) := by
  have e1 : l * (D + Q) - (1 + u) * Q = (5 * l - 4 - 4 * u) * D + (1 + u - l) * (4 * D - Q) := by ring
  have e2 : h * (D + Q) - (1 - u) * Q = (5 * h - 4 + 4 * u) * D - (h - (1 - u)) * (4 * D - Q) := by ring
  exact ⟨(le_add_of_nonneg_right (mul_nonneg (sub_nonneg.2 hl) (sub_nonneg.2 hQD))).trans
      (e1.ge.trans (sub_le_sub ht.1 hq.2)),
    (sub_le_sub ht.2 hq.1).trans (e2.le.trans
      (sub_le_self _ (mul_nonneg (sub_nonneg.2 hh) (sub_nonneg.2 hQD))))⟩

theorem Btw.div {la ua ld ud P D a d : ℚ} (hD : 0 < D) (hld : 0 < ld) (hla : 0 ≤ la * P)
    (ha : Btw la ua P a) (hd : Btw ld ud D d) : 0 < d ∧ Btw (la / ud) (ua / ld) (P / D) (a / d) := by
  have hd0 : 0 < d := (mul_pos hld hD).trans_le hd.1
  have ha0 : 0 ≤ a := hla.trans ha.1
  exact ⟨hd0, (div_mul_div_comm _ _ _ _).le.trans (div_le_div₀ ha0 ha.1 hd0 hd.2),
    (div_le_div₀ (ha0.trans ha.2) ha.2 (mul_pos hld hD) hd.1).trans (div_mul_div_comm _ _ _ _).ge⟩

/-- the two one-variable facts behind the constant 18: what six roundings and the cancellation can
add up to, against `1 ± 18u`.  The upper one needs `0 ≤ 1 − 252·u`; `u ≤ 1/500` is a round bound inside that,
far above the `2^-53` it is used at. -/
theorem isimErr_lo {u : ℚ} (hu : 0 ≤ u) :
    (1 - 18 * u) * ((1 + u) * (5 * ((1 + u) * (1 + u)) - 4 + 4 * u)) ≤ (1 - u) * (1 - u) := by
  have e : (1 - u) * (1 - u) - (1 - 18 * u) * ((1 + u) * (5 * ((1 + u) * (1 + u)) - 4 + 4 * u))
      = u * (1 + 252 * u + 337 * u ^ 2 + 90 * u ^ 3) := by ring
  exact sub_nonneg.1 (e ▸ mul_nonneg hu (by positivity))

theorem isimErr_hi {u : ℚ} (hu : 0 ≤ u) (hu1 : u ≤ 1 / 500) :
    (1 + u) * (1 + u) ≤ (1 + 18 * u) * ((1 - u) * (5 * ((1 - u) * (1 - u)) - 4 - 4 * u)) := by
  have e : (1 + 18 * u) * ((1 - u) * (5 * ((1 - u) * (1 - u)) - 4 - 4 * u)) - (1 + u) * (1 + u)
      = u * ((1 - 252 * u) + u ^ 2 * (337 - 90 * u)) := by ring
  exact sub_nonneg.1 (e ▸ mul_nonneg hu
    (add_nonneg (by linarith) (mul_nonneg (sq_nonneg u) (by linarith))))

theorem isimErr {u : ℚ} (hu : 0 < u) (hu1 : u ≤ 1 / 500) {r : ℚ → ℚ}
    (hr : ∀ {x : ℚ}, 0 ≤ x → Near u x (r x)) {P Q N D : ℚ} (hP : 0 ≤ P) (hN : 0 ≤ N) (hQ : 0 ≤ Q)
    (hD : 0 < D) (hQD : Q ≤ 4 * D) (hDN : P + N = D + Q) :
    0 < r (r (r P + r N) - r Q) ∧
      |r (r P / r (r (r P + r N) - r Q)) - P / D| ≤ 18 * u * (P / D) := by
  have hu' : u ≤ 1 := hu1.trans (by norm_num)
  have h1u : 0 ≤ 1 - u := sub_nonneg.2 hu'
  have hlt : 1 - u ≤ 1 := sub_le_self 1 hu.le
  have hgt : 1 ≤ 1 + u := le_add_of_nonneg_right hu.le
  have hgt2 : 1 ≤ (1 + u) * (1 + u) := one_le_mul_of_one_le_of_one_le hgt hgt
  have hr0 : ∀ {x : ℚ}, 0 ≤ x → 0 ≤ r x := fun hx => (mul_nonneg h1u hx).trans (hr hx).1
  have hs := (hr hP).add (hr hN)
  rw [hDN] at hs
  have ht := hs.rnd hu.le hu' (hr (add_nonneg (hr0 hP) (hr0 hN)))
  have hw := ht.sub_amp ((mul_le_one₀ hlt h1u hlt).trans hgt) (hlt.trans hgt2) hQD (hr hQ)
  have hl0 : 0 < 5 * ((1 - u) * (1 - u)) - 4 - 4 * u := by
    have e : (1 - u) * (1 - u) = 1 - 2 * u + u * u := by ring
    have := mul_self_nonneg u
    rw [e]; linarith
  have hd := hw.rnd hu.le hu' (hr ((mul_nonneg hl0.le hD.le).trans hw.1))
  have hl : 0 < (1 - u) * (5 * ((1 - u) * (1 - u)) - 4 - 4 * u) :=
    mul_pos (sub_pos.2 (hu1.trans_lt (by norm_num))) hl0
  have hh : 0 < (1 + u) * (5 * ((1 + u) * (1 + u)) - 4 + 4 * u) :=
    mul_pos (one_pos.trans_le hgt) (by linarith)
  obtain ⟨hd0, hq⟩ := Btw.div hD hl (mul_nonneg h1u hP) (hr hP) hd
  have hv := hq.rnd hu.le hu' (hr (div_nonneg (hr0 hP) hd0.le))
  exact ⟨hd0, near_iff.1 (hv.mono
    (((le_div_iff₀ hh).2 (isimErr_lo hu.le)).trans (mul_div_assoc _ _ _).le)
    ((mul_div_assoc _ _ _).ge.trans ((div_le_iff₀ hl).2 (isimErr_hi hu.le hu1)))
    (div_nonneg hP hD.le))⟩

theorem near_rnd {x : ℚ} (hx : 0 ≤ x) : Near (2 ^ (-53 : ℤ)) x (rnd x) :=
  near_iff.2 ((rnd_relErr x).trans_eq (by rw [abs_of_nonneg hx]))

theorem isim_float (ks : List Nat) (n : Nat) (hn : 2 ≤ n) (hk : ∀ k ∈ ks, k ≤ n) (hS : 0 < ks.sum) :
    0 < fsub (fadd (rnd (pairSum ks)) (ofNat (n * ks.sum))) (ofNat (sqSum ks)) ∧
    |fdiv (rnd (pairSum ks)) (fsub (fadd (rnd (pairSum ks)) (ofNat (n * ks.sum))) (ofNat (sqSum ks)))
        - exactIsim ks n| ≤ 18 * 2 ^ (-53 : ℤ) * exactIsim ks n := by
  have e1 := two_pairSum ks
  have e2 := denSum_add_sqSum ks n hk
  have e3 := sqSum_le ks n hk
  have e4 : 2 * ks.sum ≤ n * ks.sum := Nat.mul_le_mul_right _ hn
  have hD : (0:ℚ) < denSum ks n := Nat.cast_pos.mpr (isim_den_pos ks n hn hk hS)
  have hQD : (sqSum ks : ℚ) ≤ 4 * (denSum ks n : ℚ) := by
    exact_mod_cast (by omega : sqSum ks ≤ 4 * denSum ks n)
  have hDN : (pairSum ks : ℚ) + ((n * ks.sum : ℕ) : ℚ) = (denSum ks n : ℚ) + (sqSum ks : ℚ) := by
    exact_mod_cast e2.symm
  exact isimErr (by positivity) (by norm_num) near_rnd (Nat.cast_nonneg _) (Nat.cast_nonneg _)
    (Nat.cast_nonneg _) hD hQD hDN

theorem isim_ulp (ks : List Nat) (n : Nat) (hn : 2 ≤ n) (hk : ∀ k ∈ ks, k ≤ n) (hS : 0 < ks.sum)
    (hb : n * ks.sum < 2 ^ 64) :
    ∃ v, isimFromSum ks n = some v ∧
      |v - exactIsim ks n| ≤ 18 * 2 ^ (-53 : ℤ) * exactIsim ks n ∧ 0 ≤ v := by
  obtain ⟨hd, herr⟩ := isim_float ks n hn hk hS
  rw [isim_of_no_wrap ks n hn hk hS hb, isim_num rnd_isRounding]
  exact ⟨_, rfl, herr, rnd_nonneg (div_nonneg (rnd_nonneg (Nat.cast_nonneg _)) hd.le)⟩

theorem isim_floatDen_pos (ks : List Nat) (n : Nat) (hn : 2 ≤ n) (hk : ∀ k ∈ ks, k ≤ n)
    (hS : 0 < ks.sum) :
    0 < fsub (fadd (ofNat (sqSum ks - ks.sum) / 2) (ofNat (n * ks.sum))) (ofNat (sqSum ks)) := by
  rw [isim_num rnd_isRounding]
  exact (isim_float ks n hn hk hS).1

/-- the upper end `v ≤ 1` is false above 2^52: for a single column with `k = n = 77490642`
(`n·Σk = n² ≈ 1.33·2^52`, exact value 1) the float formula returns `1 + 2^-52` -/
theorem isim_gt_one_witness :
    exactIsim [77490642] 77490642 = 1 ∧
    isimFromSum [77490642] 77490642 = some (4503599627370497 / 4503599627370496) := by
  decide +kernel

end BB
