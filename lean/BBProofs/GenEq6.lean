/-
GenEq6 — the constructor of the sub-cluster object (`_BFSubcluster.__init__`, translated whole): from a saved buffer
(`buffer=`, what every round of the multi-round workflow and `_fit_buffers` do: the member list must have as many entries
as the stored count, the centroid is recomputed from the stored sums and the stored count — passed as a NumPy scalar of the
buffer's dtype), from one fingerprint (`linear_sum=`), and empty.
-/
import BBProofs.GenEq2

namespace BB
open PV

/-- `centroid_from_sum` with the count given as a NumPy unsigned scalar (as `__init__(buffer=...)` passes `buffer[-1]`) -/
theorem gen_centroid_packed_uns (expf : Rat → Rat) (w wn : W) (ls : List Nat) (n : Nat)
    (hk : ∀ k ∈ ls, k ≤ n) (hn : n < 2 ^ 53) :
    BBGen.centroid_from_sum expf (PV.arr w ls) (PV.uns wn n) (PV.bool true)
      = PV.arr .u8 (pack (centroidFromSum ls n)) := by
  -- `n <= 1` and `n * 0.5` see an unsigned scalar as the Python int of its value
  exact gen_centroid_packed expf w ls n hk hn

/-- re-import of a saved summary, `_BFSubcluster(buffer=…, mol_indices=…, check_indices=…)`; the object holds the
buffer as it came, its dtype included -/
theorem gen_subcluster_init_buffer (expf : Rat → Rat) (w : W) (ls : List Nat) (n : Nat) (ids : List Nat)
    (wi : W) (nf : PV) (check : Bool) (hk : ∀ k ∈ ls, k ≤ n) (hn : n < 2 ^ 53) :
    BBGen._BFSubcluster_init expf PV.pynone (PV.arr wi ids) nf (PV.arr w (ls ++ [n])) (PV.bool check)
      = if check = true ∧ ids.length ≠ n
        then [PV.err "ValueError", PV.pynone, PV.pynone, PV.pynone, PV.pynone]
        else PV.pynone :: stateOf (Clu.ofBuffer w ls n ids) PV.pynone := by
  simp only [BBGen._BFSubcluster_init, pv, gen_centroid_packed_uns expf w w ls n hk hn, Bool.and_eq_true, decide_eq_true_eq,
    ne_eq, Nat.cast_inj]
  rfl

theorem rowToNat_wrap_u8 (r : Row) : (rowToNat r).map (wrap .u8) = rowToNat r := by
  simp only [rowToNat, List.map_map]
  apply List.map_congr_left
  intro b _
  cases b <;> simp [wrap, W.bits]

/-- a new singleton: `_BFSubcluster(linear_sum=fp, mol_indices=[label])` -/
theorem gen_subcluster_init_row (expf : Rat → Rat) (r : Row) (label : Nat) (wi : W) (nf : PV) (check : Bool) :
    BBGen._BFSubcluster_init expf (PV.arr .u8 (rowToNat r)) (PV.arr wi [label]) nf PV.pynone (PV.bool check)
      = PV.pynone :: stateOf (Clu.ofRow r label) PV.pynone := by
  simp only [BBGen._BFSubcluster_init, BBGen.pack_fingerprints, pv, List.length_singleton, Nat.cast_one, ne_eq, not_true,
    decide_false, ← Nat.cast_succ, List.replicate_succ', rowToNat_wrap_u8,
    setInit_concat _ _ _ _ _ (List.length_replicate (n := (rowToNat r).length) (a := 0)).symm,
    show PV.setLast (arr .u8 (rowToNat r ++ [0])) (int 1) = arr .u8 (rowToNat r ++ [1]) from
      setLast_concat .u8 _ 0 1 (by decide), rowToNat_ne_zero]
  rfl

end BB
