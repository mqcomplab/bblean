/-
Properties of the six merge-accept functions (`BBModel/Merges.lean`).

Every criterion is a threshold test on the statistic of the merged cluster (`thrOk`) and a
condition that does not mention the threshold (`extra`): `accept_eq`.  Monotonicity in the
threshold and soundness come from the first factor, the tolerance laws from the second.

Everything that needs a fact about floating-point rounding takes it through the
hypothesis `hr : IsRounding rnd` (`BBProofs/Rounding.lean`).
-/
import BBModel.Merges
import BBProofs.Isim

namespace BB

theorem geOpt_eq_true_iff (a : Option Rat) (b : Rat) :
    geOpt a b = true ↔ ∃ v, a = some v ∧ b ≤ v := by
  cases a <;> simp [geOpt]

theorem ltOpt_some (x b : Rat) : ltOpt (some x) b = decide (x < b) := rfl

theorem ltOpt_none (b : Rat) : ltOpt none b = false := rfl

theorem isimFromSum_eq_none_iff (ls : List Nat) (n : Nat) :
    isimFromSum ls n = none ↔ n < 2 := by
  refine ⟨fun h => ?_, isim_none ls n⟩
  by_contra hc
  have := isim_isSome ls n (Nat.not_lt.mp hc)
  rw [h] at this
  exact absurd this (by simp)

theorem radiusCompl_isSome (ls : List Nat) (n : Nat) (h : 2 ≤ n) :
    (radiusCompl ls n).isSome := by
  unfold radiusCompl
  obtain ⟨j, hj⟩ := Option.isSome_iff_exists.mp (isim_isSome ls n h)
  obtain ⟨j1, hj1⟩ := Option.isSome_iff_exists.mp (isim_isSome
    ((addLs ls (rowToNat (centroidFromSum ls n))).map u64) (n + 1) (by omega))
  simp only [hj, hj1]
  rfl

theorem stat_isSome (c : Crit) (s : Summary) (h : 2 ≤ s.n) : (stat c s).isSome := by
  cases c <;> first | exact radiusCompl_isSome _ _ h | exact isim_isSome _ _ h

/-- the threshold test every criterion starts with: `stat ≥ thr` for the plain criteria,
`¬ stat < thr` for the tolerance ones (they differ on NaN only) -/
def thrOk (c : Crit) (s : Option Rat) (t : Rat) : Bool :=
  match c with
  | .radius | .diameter => geOpt s t
  | .never => false
  | _ => !ltOpt s t

/-- the tail shared by the three tolerance criteria: pass when `p` (old cluster a singleton, …),
else compare the two statistics with `test`; NaN fails -/
def tolTest (p : Prop) [Decidable p] (ns os : Option Rat) (test : Rat → Rat → Bool) : Bool :=
  if p then true
  else
    match ns, os with
    | some nd, some od => test nd od
    | _, _ => false

/-- what a criterion asks beyond the threshold test -/
def extra (m : MergeFn) (X : ExpTab) (new old nom : Summary) : Bool :=
  match m.crit with
  | .radius | .diameter | .never => true
  | .tolDiameter | .tolRadius =>
    tolTest (old.n = 1) (stat m.crit new) (stat m.crit old)
      fun nd od => decide (fsub od (slack X m.tol old.n) ≤ nd)
  | .tolLegacy =>
    tolTest (old.n = 1 ∨ nom.n ≠ 1) (stat m.crit new) (stat m.crit old)
      fun nd od =>
        decide (fsub od m.tol ≤ fsub (fmul nd (ofNat new.n)) (fmul od (ofNat (old.n - 1))) / 2)

theorem tolTest_pos {p : Prop} [Decidable p] (hp : p) (ns os : Option Rat)
    (test : Rat → Rat → Bool) : tolTest p ns os test = true := if_pos hp

theorem tolTest_some {p : Prop} [Decidable p] (hp : ¬p) (v o : Rat) (test : Rat → Rat → Bool) :
    tolTest p (some v) (some o) test = test v o := if_neg hp

theorem tolTest_mono {p : Prop} [Decidable p] {ns os : Option Rat} {test test' : Rat → Rat → Bool}
    (h : ∀ v o, test v o = true → test' v o = true) (ha : tolTest p ns os test = true) :
    tolTest p ns os test' = true := by
  unfold tolTest at ha ⊢
  split
  · rfl
  · next hp =>
    rw [if_neg hp] at ha
    split at ha
    · exact h _ _ ha
    · exact absurd ha (by simp)

theorem accept_eq (m : MergeFn) (X : ExpTab) (t : Rat) (new old nom : Summary) :
    accept m X t new old nom = (thrOk m.crit (stat m.crit new) t && extra m X new old nom) := by
  obtain ⟨c, tol⟩ := m
  -- a plain criterion is its threshold test; a tolerance criterion is `if stat < thr then false else` its tail
  cases c <;> simp only [accept, thrOk, extra, stat, Bool.and_true]
  all_goals generalize ltOpt _ t = b; cases b <;> rfl

theorem accept_iff (m : MergeFn) (X : ExpTab) (t : Rat) (new old nom : Summary) :
    accept m X t new old nom = true ↔
      thrOk m.crit (stat m.crit new) t = true ∧ extra m X new old nom = true := by
  rw [accept_eq, Bool.and_eq_true]

theorem thrOk_some (c : Crit) (hc : c ≠ .never) (v t : Rat) : thrOk c (some v) t = true ↔ t ≤ v := by
  cases c <;> first | exact absurd rfl hc | simp [thrOk, geOpt, ltOpt]

theorem thrOk_mono (c : Crit) (s : Option Rat) {t t' : Rat} (ht : t' ≤ t)
    (h : thrOk c s t = true) : thrOk c s t' = true := by
  cases s with
  | none => exact h ▸ (by cases c <;> rfl)
  | some v =>
    by_cases hc : c = .never
    · subst hc; exact h
    · rw [thrOk_some c hc] at h ⊢
      exact ht.trans h

theorem accept_never (m : MergeFn) (X : ExpTab) (t : Rat) (new old nom : Summary)
    (hc : m.crit = .never) : accept m X t new old nom = false := by
  rw [accept_eq, hc]; rfl

theorem accept_iff_of_two_le (m : MergeFn) (X : ExpTab) (t : Rat) (new old nom : Summary)
    (hc : m.crit ≠ .never) (hn : 2 ≤ new.n) :
    accept m X t new old nom = true ↔
      (∃ v, stat m.crit new = some v ∧ t ≤ v) ∧ extra m X new old nom = true := by
  obtain ⟨v, hv⟩ := Option.isSome_iff_exists.mp (stat_isSome m.crit new hn)
  rw [accept_iff, hv, thrOk_some _ hc]
  simp

theorem accept_sound (m : MergeFn) (X : ExpTab) (t : Rat) (new old nom : Summary)
    (hn : 2 ≤ new.n) (h : accept m X t new old nom = true) :
    ∃ v, stat m.crit new = some v ∧ t ≤ v := by
  by_cases hc : m.crit = .never
  · rw [accept_never m X t new old nom hc] at h; exact absurd h (by simp)
  · exact ((accept_iff_of_two_le m X t new old nom hc hn).mp h).1

theorem extra_plain (m : MergeFn) (X : ExpTab) (new old nom : Summary)
    (hc : m.crit = .radius ∨ m.crit = .diameter) : extra m X new old nom = true := by
  rcases hc with hc | hc <;> unfold extra <;> rw [hc]

theorem extra_singleton (m : MergeFn) (X : ExpTab) (new old nom : Summary)
    (hc : m.crit = .tolDiameter ∨ m.crit = .tolRadius) (ho : old.n = 1) :
    extra m X new old nom = true := by
  rcases hc with hc | hc <;> unfold extra <;> rw [hc] <;> exact tolTest_pos ho _ _ _

theorem extra_tol_iff (m : MergeFn) (X : ExpTab) (new old nom : Summary)
    (hc : m.crit = .tolDiameter ∨ m.crit = .tolRadius) (ho : old.n ≠ 1) {v o : Rat}
    (hv : stat m.crit new = some v) (ho' : stat m.crit old = some o) :
    extra m X new old nom = true ↔ fsub o (slack X m.tol old.n) ≤ v := by
  rcases hc with hc | hc <;> unfold extra <;> rw [hv, ho', hc] <;>
    exact (tolTest_some ho v o _).symm ▸ decide_eq_true_iff

theorem extra_legacy_pass (m : MergeFn) (X : ExpTab) (new old nom : Summary)
    (hc : m.crit = .tolLegacy) (hs : old.n = 1 ∨ nom.n ≠ 1) : extra m X new old nom = true := by
  unfold extra; rw [hc]; exact tolTest_pos hs _ _ _

theorem accept_plain_iff (m : MergeFn) (X : ExpTab) (t : Rat) (new old nom : Summary)
    (hc : m.crit = .radius ∨ m.crit = .diameter) (hn : 2 ≤ new.n) :
    accept m X t new old nom = true ↔ ∃ v, stat m.crit new = some v ∧ t ≤ v := by
  rw [accept_iff_of_two_le m X t new old nom (by rcases hc with h | h <;> simp [h]) hn,
    extra_plain m X new old nom hc, and_iff_left rfl]

theorem slack_mono_tol (hr : IsRounding rnd) (X : ExpTab) (n : Nat) {tol tol' : Rat}
    (h0 : 0 ≤ tol) (h : tol ≤ tol') : slack X tol n ≤ slack X tol' n := by
  unfold slack fmul
  rcases le_total 0 (fsub (X.E n) X.off) with hd | hd
  · exact max_le_max (hr.mono (mul_le_mul_of_nonneg_right h hd)) (le_refl _)
  · rw [max_eq_right (hr.nonpos (mul_nonpos_of_nonneg_of_nonpos h0 hd)),
      max_eq_right (hr.nonpos (mul_nonpos_of_nonneg_of_nonpos (h0.trans h) hd))]

theorem extra_mono_tol (hr : IsRounding rnd) (X : ExpTab) (new old nom : Summary) (c : Crit)
    {tol tol' : Rat} (h0 : c = .tolLegacy ∨ 0 ≤ tol) (h : tol ≤ tol')
    (ha : extra ⟨c, tol⟩ X new old nom = true) : extra ⟨c, tol'⟩ X new old nom = true := by
  -- in each case the left side `fsub od ·` of the comparison decreases
  have key : ∀ {s s' od b : Rat}, s ≤ s' → decide (fsub od s ≤ b) = true →
      decide (fsub od s' ≤ b) = true := fun hs hb =>
    decide_eq_true (le_trans (hr.mono (sub_le_sub_left hs _)) (of_decide_eq_true hb))
  cases c
  case tolLegacy => exact tolTest_mono (fun _ _ => key h) ha
  case tolDiameter =>
    exact tolTest_mono (fun _ _ => key (slack_mono_tol hr X _ (h0.resolve_left (by simp)) h)) ha
  case tolRadius =>
    exact tolTest_mono (fun _ _ => key (slack_mono_tol hr X _ (h0.resolve_left (by simp)) h)) ha
  all_goals exact ha

theorem accept_mono_tol_legacy (hr : IsRounding rnd) (X : ExpTab) (t : Rat)
    (new old nom : Summary) {tol tol' : Rat} (h : tol ≤ tol')
    (ha : accept ⟨.tolLegacy, tol⟩ X t new old nom = true) :
    accept ⟨.tolLegacy, tol'⟩ X t new old nom = true := by
  rw [accept_iff] at ha ⊢
  exact ⟨ha.1, extra_mono_tol hr X new old nom .tolLegacy (Or.inl rfl) h ha.2⟩

theorem ofName_name (c : Crit) : Crit.ofName? c.name = some c := by
  cases c <;> decide

theorem name_of_ofName {name : String} {c : Crit} (h : Crit.ofName? name = some c) :
    c.name = name := by
  unfold Crit.ofName? at h
  split at h <;> first | (cases h; rfl) | exact absurd h (by simp)

theorem getMergeFn_spec (name : String) (tol : Rat) (m : MergeFn)
    (h : getMergeFn name tol = some m) : m.crit.name = name ∧ m.tol = tol := by
  unfold getMergeFn at h
  cases hc : Crit.ofName? name with
  | none => rw [hc] at h; exact absurd h (by simp)
  | some c =>
    rw [hc] at h
    simp only [Option.map_some, Option.some.injEq] at h
    subst h
    exact ⟨name_of_ofName hc, rfl⟩

theorem getMergeFn_name (c : Crit) (tol : Rat) :
    getMergeFn c.name tol = some ⟨c, tol⟩ := by
  unfold getMergeFn
  rw [ofName_name]
  rfl

end BB
