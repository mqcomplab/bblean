/-
The reference policy (`refPolicy`, the decisions the code takes) is a valid policy.  The interesting
clause is `mask_false`: the split of an over-full node never sends every entry to the new sibling.  This
settles the TODO of the code ("one of the sub-clusters may never get updated"): both halves of a split
are non-empty, whatever the fingerprints (all-zero rows and duplicated rows included).
-/
import BBProofs.TreeBasic
import BBProofs.Bits
import BBProofs.Fl

namespace BB

theorem jtArrVec_ne_nil {X : List Row} (y : Row) (h : X ≠ []) : jtArrVec X y ≠ [] := by
  intro h0
  apply h
  have := jtArrVec_length X y
  rw [h0] at this
  exact List.length_eq_zero_iff.mp this.symm

theorem jtArrVec_getElem (X : List Row) (y : Row) (j : Nat) (hj : j < (jtArrVec X y).length) :
    (jtArrVec X y)[j] = jtBits (X[j]'(by rw [jtArrVec_length] at hj; exact hj)) y := by
  simp [jtArrVec]

theorem jtBits_eq_zero_of_popc_eq_zero_left (a b : Row) (h : popc a = 0) : jtBits a b = 0 := by
  unfold jtBits
  have h0 : popc (andRow a b) = 0 := by
    have := popc_andRow_le_left a b
    omega
  rw [h0]
  exact jtCounts_zero rnd_zero _ _

theorem jtBits_eq_zero_of_popc_eq_zero_right (a b : Row) (h : popc b = 0) : jtBits a b = 0 := by
  rw [jtBits_comm]; exact jtBits_eq_zero_of_popc_eq_zero_left b a h

/-- no row is more similar to `a` than `a` itself (rounding to a float keeps 0 and 1 and is monotone: BBProofs/Fl.lean) -/
theorem jtBits_self_not_lt (a b : Row) : ¬ jtBits a a < jtBits a b := by
  by_cases h : popc a = 0
  · rw [jtBits_self_of_popc_eq_zero rnd_zero a h, jtBits_eq_zero_of_popc_eq_zero_left a b h]
    exact lt_irrefl _
  · rw [jtBits_self rnd_one a (Nat.pos_of_ne_zero h)]
    exact not_lt.mpr (jtBits_le_one rnd_monotone rnd_one a b)

theorem mostDissimilar_fst (Y : List Row) : (mostDissimilar Y).1 =
    argminFirst (Y.map (fun y => jtBits y (centroidFromSum (colSum Y) Y.length))) := rfl

theorem mostDissimilar_s1 (Y : List Row) : (mostDissimilar Y).2.2.1 =
    Y.map (fun y => jtBits y (Y.getD (mostDissimilar Y).1 [])) := rfl

theorem mostDissimilar_snd (Y : List Row) : (mostDissimilar Y).2.1 =
    argminFirst (mostDissimilar Y).2.2.1 := rfl

theorem mostDissimilar_s2 (Y : List Row) : (mostDissimilar Y).2.2.2 =
    Y.map (fun y => jtBits y (Y.getD (mostDissimilar Y).2.1 [])) := rfl

theorem mostDissimilar_fst_lt (Y : List Row) (hne : Y ≠ []) : (mostDissimilar Y).1 < Y.length := by
  have h := argminFirst_lt (jtArrVec Y (centroidFromSum (colSum Y) Y.length))
    (jtArrVec_ne_nil _ hne)
  rw [jtArrVec_length] at h
  exact h

theorem mostDissimilar_snd_lt (Y : List Row) (hne : Y ≠ []) :
    (mostDissimilar Y).2.1 < Y.length := by
  have h := argminFirst_lt (jtArrVec Y (Y.getD (mostDissimilar Y).1 [])) (jtArrVec_ne_nil _ hne)
  rw [jtArrVec_length] at h
  exact h

/-- `mostDissimilar_spec` about the components of the result -/
theorem mostDissimilar_proj (Y : List Row) (hne : Y ≠ []) :
    (mostDissimilar Y).1 < Y.length ∧ (mostDissimilar Y).2.1 < Y.length ∧
    (mostDissimilar Y).2.2.1 = Y.map (fun y => jtBits y (Y.getD (mostDissimilar Y).1 [])) ∧
    (mostDissimilar Y).2.2.2 = Y.map (fun y => jtBits y (Y.getD (mostDissimilar Y).2.1 [])) ∧
    (mostDissimilar Y).1 =
      argminFirst (Y.map (fun y => jtBits y (centroidFromSum (colSum Y) Y.length))) ∧
    (mostDissimilar Y).2.1 = argminFirst (mostDissimilar Y).2.2.1 :=
  ⟨mostDissimilar_fst_lt Y hne, mostDissimilar_snd_lt Y hne, rfl, rfl, rfl, rfl⟩

theorem mostDissimilar_spec (Y : List Row) (hne : Y ≠ []) :
    let (i1, i2, s1, s2) := mostDissimilar Y
    i1 < Y.length ∧ i2 < Y.length ∧
    s1 = Y.map (fun y => jtBits y (Y.getD i1 [])) ∧
    s2 = Y.map (fun y => jtBits y (Y.getD i2 [])) ∧
    i1 = argminFirst (Y.map (fun y => jtBits y (centroidFromSum (colSum Y) Y.length))) ∧
    i2 = argminFirst s1 :=
  mostDissimilar_proj Y hne

theorem mostDissimilar_snd_min (Y : List Row) (j : Nat) (hj : j < Y.length) :
    jtBits (Y.getD (mostDissimilar Y).2.1 []) (Y.getD (mostDissimilar Y).1 []) ≤
      jtBits Y[j] (Y.getD (mostDissimilar Y).1 []) := by
  have hne : Y ≠ [] := List.ne_nil_of_length_pos (by omega)
  have h2 := mostDissimilar_snd_lt Y hne
  have hj' : j < (jtArrVec Y (Y.getD (mostDissimilar Y).1 [])).length := by
    rw [jtArrVec_length]; exact hj
  have h := argminFirst_min (jtArrVec Y (Y.getD (mostDissimilar Y).1 [])) j hj'
  rw [jtArrVec_getElem, jtArrVec_getElem] at h
  have e : Y.getD (mostDissimilar Y).2.1 [] = Y[(mostDissimilar Y).2.1] := by
    simp [List.getD, h2]
  rw [e]
  exact h

theorem refMask_eq (cache : List Row) : refMask cache =
    (List.zipWith (fun a b => decide (b < a)) (mostDissimilar cache).2.2.1
      (mostDissimilar cache).2.2.2).zipIdx.map (fun p => p.1 || p.2 == (mostDissimilar cache).1) :=
  rfl

theorem refMask_length (cache : List Row) : (refMask cache).length = cache.length := by
  rw [refMask_eq, mostDissimilar_s1, mostDissimilar_s2]
  simp

theorem refMask_getElem (cache : List Row) (j : Nat) (hj : j < cache.length) :
    (refMask cache)[j]'(by rw [refMask_length]; exact hj) =
      (decide (j = (mostDissimilar cache).1) ||
        decide (jtBits cache[j] (cache.getD (mostDissimilar cache).2.1 []) <
          jtBits cache[j] (cache.getD (mostDissimilar cache).1 []))) := by
  simp only [refMask_eq, mostDissimilar_s1, mostDissimilar_s2, List.getElem_map,
    List.getElem_zipIdx, List.getElem_zipWith, Nat.zero_add]
  rw [Bool.or_comm]
  congr 1

theorem refMask_seed1 (cache : List Row) (hne : cache ≠ []) :
    (refMask cache)[(mostDissimilar cache).1]? = some true := by
  have h1 := mostDissimilar_fst_lt cache hne
  rw [List.getElem?_eq_getElem (by rw [refMask_length]; exact h1), refMask_getElem cache _ h1]
  simp

theorem refMask_seed2 (cache : List Row) (hne : cache ≠ [])
    (h : (mostDissimilar cache).2.1 ≠ (mostDissimilar cache).1) :
    (refMask cache)[(mostDissimilar cache).2.1]? = some false := by
  have h2 := mostDissimilar_snd_lt cache hne
  rw [List.getElem?_eq_getElem (by rw [refMask_length]; exact h2), refMask_getElem cache _ h2]
  have e : cache.getD (mostDissimilar cache).2.1 [] = cache[(mostDissimilar cache).2.1] := by
    simp [List.getD, h2]
  rw [e]
  simp only [Option.some.injEq, Bool.or_eq_false_iff, decide_eq_false_iff_not]
  exact ⟨h, jtBits_self_not_lt _ _⟩

theorem refMask_of_seeds_eq (cache : List Row)
    (h : (mostDissimilar cache).2.1 = (mostDissimilar cache).1) (j : Nat) (hj : j < cache.length) :
    (refMask cache)[j]? = some (decide (j = (mostDissimilar cache).1)) := by
  rw [List.getElem?_eq_getElem (by rw [refMask_length]; exact hj), refMask_getElem cache _ hj, h]
  simp

theorem refMask_true_mem (cache : List Row) (hne : cache ≠ []) : true ∈ refMask cache :=
  List.mem_of_getElem? (refMask_seed1 cache hne)

theorem refMask_both_sides (cache : List Row) (h2 : 2 ≤ cache.length) :
    (refMask cache)[(mostDissimilar cache).1]? = some true ∧
    ∃ j, j < cache.length ∧ j ≠ (mostDissimilar cache).1 ∧ (refMask cache)[j]? = some false := by
  have hne : cache ≠ [] := List.ne_nil_of_length_pos (by omega)
  refine ⟨refMask_seed1 cache hne, ?_⟩
  by_cases h : (mostDissimilar cache).2.1 = (mostDissimilar cache).1
  · -- both seeds coincide: every entry but the seed stays, and there is another entry
    by_cases h0 : (mostDissimilar cache).1 = 0
    · refine ⟨1, by omega, by omega, ?_⟩
      rw [refMask_of_seeds_eq cache h 1 (by omega), h0]
      simp
    · refine ⟨0, by omega, fun e => h0 e.symm, ?_⟩
      rw [refMask_of_seeds_eq cache h 0 (by omega)]
      simp only [Option.some.injEq, decide_eq_false_iff_not]
      exact fun e => h0 e.symm
  · exact ⟨_, mostDissimilar_snd_lt cache hne, h, refMask_seed2 cache hne h⟩

theorem refMask_false_mem (cache : List Row) (h2 : 2 ≤ cache.length) : false ∈ refMask cache :=
  let ⟨_, _, _, h⟩ := (refMask_both_sides cache h2).2
  List.mem_of_getElem? h

theorem refPolicy_route (X : ExpTab) (cfg : Cfg) (cache : List Row) (c : Row) :
    (refPolicy X cfg).route cache c = argmaxFirst (jtArrVec cache c) := rfl

theorem refPolicy_mask (X : ExpTab) (cfg : Cfg) : (refPolicy X cfg).mask = refMask := rfl

theorem refPolicy_accept (X : ExpTab) (cfg : Cfg) (c s : Clu) :
    (refPolicy X cfg).accept c s =
      accept cfg.merge X cfg.thr (c.mergedSummary s) c.summary s.summary := rfl

theorem refRoute_lt (X : ExpTab) (cfg : Cfg) (cache : List Row) (c : Row) (hne : cache ≠ []) :
    (refPolicy X cfg).route cache c < cache.length := by
  have h := argmaxFirst_lt (jtArrVec cache c) (jtArrVec_ne_nil c hne)
  rw [jtArrVec_length] at h
  exact h

theorem refPolicy_valid (X : ExpTab) (cfg : Cfg) : (refPolicy X cfg).Valid where
  route_lt := fun cache c hne => refRoute_lt X cfg cache c hne
  mask_len := fun cache => refMask_length cache
  mask_true := fun cache h2 => refMask_true_mem cache (List.ne_nil_of_length_pos (by omega))
  mask_false := fun cache h2 => refMask_false_mem cache h2

end BB
