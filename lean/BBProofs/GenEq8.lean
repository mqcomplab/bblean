/-
GenEq8 — the node-level list operations of `_BFNode` (`append_subcluster`, `update_split_subclusters`, the
`packed_centroids` view), as translated, against the list manipulations the model's insertion performs
(`BBModel/Tree.lean`: `ents.set i (c1, t1) ++ [(c2, t2)]`, `cache.set i c1.cent ++ [c2.cent]`).

Sub-clusters are handles (object identities) and the rows of `_packed_centroids_buf` centroid tokens; the entry list is
`arr .big subs`, the preallocated buffer `arr .big buf` with `subs.length < buf.length` (the buffer has
`branching_factor + 1` rows and a node is split as soon as it holds more than `branching_factor` entries).
-/
import BBProofs.GenEq

namespace BB
open PV

theorem gen_node_cache (expf : Rat → Rat) (subs buf : List Nat) (log : PV) :
    BBGen._BFNode_packed_centroids expf (arr .big subs) (arr .big buf) log = arr .big (buf.take subs.length) := by
  simp only [BBGen._BFNode_packed_centroids, pv]

/-- `h` the handle of the sub-cluster, `c` its centroid token -/
theorem gen_node_append (expf : Rat → Rat) (subs buf : List Nat) (log : PV) (h c : Nat) (hlen : subs.length < buf.length) :
    BBGen._BFNode_append_subcluster expf (arr .big subs) (arr .big buf) log (int h) (int c)
      = [arr .big (subs ++ [h]), arr .big (buf.set subs.length c), log] := by
  simp only [BBGen._BFNode_append_subcluster, pv, setAt_nat _ _ _ _ hlen]

/-- `h` the handle of the split entry, first found at `i`; `h1`, `h2` the halves, `c1`, `c2` their centroid tokens -/
theorem gen_node_split_update (expf : Rat → Rat) (subs buf : List Nat) (log : PV) (h h1 h2 c1 c2 i : Nat)
    (hlen : subs.length < buf.length) (hi : subs.idxOf? h = some i) :
    BBGen._BFNode_update_split_subclusters expf (arr .big subs) (arr .big buf) log (int h) (int h1) (int h2) (int c1) (int c2)
      = [arr .big (subs.set i h1 ++ [h2]), arr .big ((buf.set i c1).set subs.length c2), log] := by
  have hil : i < subs.length := (List.idxOf?_eq_some_iff.mp hi).1
  have hib : i < buf.length := by omega
  simp only [BBGen._BFNode_update_split_subclusters, pv, hi, Option.elim_some, setAt_nat _ _ _ _ hil, setAt_nat _ _ _ _ hib,
    gen_node_append expf (subs.set i h1) (buf.set i c1) log h2 c2 (by simpa using hlen), List.length_set]

/-- `cent` maps a handle to its centroid token: if the valid part of the buffer lists the centroids of the entries, it
still does after the call -/
theorem gen_node_append_aligned (expf : Rat → Rat) (cent : Nat → Nat) (subs buf : List Nat) (log : PV) (h : Nat)
    (hlen : subs.length < buf.length) (hal : buf.take subs.length = subs.map cent) :
    let st := BBGen._BFNode_append_subcluster expf (arr .big subs) (arr .big buf) log (int h) (int (cent h))
    BBGen._BFNode_packed_centroids expf (st.getD 0 pynone) (st.getD 1 pynone) (st.getD 2 pynone)
      = arr .big ((subs ++ [h]).map cent) := by
  intro st
  have hst : st = [arr .big (subs ++ [h]), arr .big (buf.set subs.length (cent h)), log] :=
    gen_node_append expf subs buf log h (cent h) hlen
  rw [hst]
  simp only [List.getD_cons_zero, List.getD_cons_succ, gen_node_cache]
  congr 1
  rw [List.length_append, List.length_singleton, List.take_add_one]
  simp [List.take_set_of_le, hal, hlen]

/-- the same for `update_split_subclusters`; the two lists are the expressions `ents'`, `cache'` of the model's `BB.ins` -/
theorem gen_node_split_aligned (expf : Rat → Rat) (cent : Nat → Nat) (subs buf : List Nat) (log : PV) (h h1 h2 i : Nat)
    (hlen : subs.length < buf.length) (hi : subs.idxOf? h = some i) (hal : buf.take subs.length = subs.map cent) :
    let st := BBGen._BFNode_update_split_subclusters expf (arr .big subs) (arr .big buf) log (int h) (int h1) (int h2)
                (int (cent h1)) (int (cent h2))
    st.getD 0 pynone = arr .big (subs.set i h1 ++ [h2]) ∧
    BBGen._BFNode_packed_centroids expf (st.getD 0 pynone) (st.getD 1 pynone) (st.getD 2 pynone)
      = arr .big ((subs.map cent).set i (cent h1) ++ [cent h2]) ∧
    (subs.map cent).set i (cent h1) ++ [cent h2] = (subs.set i h1 ++ [h2]).map cent := by
  intro st
  have hst : st = [arr .big (subs.set i h1 ++ [h2]), arr .big ((buf.set i (cent h1)).set subs.length (cent h2)), log] :=
    gen_node_split_update expf subs buf log h h1 h2 (cent h1) (cent h2) i hlen hi
  have hil : i < subs.length := (List.idxOf?_eq_some_iff.mp hi).1
  rw [hst]
  refine ⟨rfl, ?_, ?_⟩
  · simp only [List.getD_cons_zero, List.getD_cons_succ, gen_node_cache]
    congr 1
    rw [List.length_append, List.length_singleton, List.length_set, List.take_add_one]
    have h1' : subs.length < (buf.set i (cent h1)).length := by simpa using hlen
    simp only [List.take_set_of_le (Nat.le_refl _)]
    rw [List.take_set, hal, List.getElem?_set_self h1']
    rfl
  · simp [List.map_set]
