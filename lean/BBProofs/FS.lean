/-
The directory of the multi-round workflow (`FS`, BBModel/Multiround.lean) as a key-value store: reads after
writes, writes to different names commute, hence so do the tasks of a round with disjoint write sets
(`execRound_perm`).  The order of the list matters only for the listings (`glob`), and there only for round
files: that is `FS.WF`.
-/
import BBProofs.Names
import Mathlib.Data.List.Perm.Basic
import Mathlib.Data.List.Nodup

namespace BB.MR
open BB

/-- `fs.map (·.1)`; membership is written `fs.read n ≠ none` in the statements (`mem_names_iff`) -/
def FS.names (fs : FS) : List String := fs.map (·.1)

/-- names strictly increasing: the representation invariant of a directory -/
def FS.Sorted (fs : FS) : Prop := fs.Pairwise (fun a b => a.1 < b.1)

/-- the part of it the workflow relies on: every round file comes after smaller names only, so round
files are listed once and in order.  It holds for any association list without round files, hence after the
initial purge whatever the directory was, and every write and removal keeps it. -/
def FS.WF (fs : FS) : Prop := fs.Pairwise (fun a b => isRoundFile b.1 = true → a.1 < b.1)

theorem FS.Sorted.wf {fs : FS} (h : fs.Sorted) : fs.WF := by
  unfold FS.Sorted at h
  unfold FS.WF
  exact List.Pairwise.imp (S := fun (a b : String × Content) => isRoundFile b.1 = true → a.1 < b.1)
    (fun hab _ => hab) h

@[simp] theorem read_nil (n : String) : FS.read [] n = none := rfl

theorem read_cons (m : String) (d : Content) (fs : FS) (n : String) :
    FS.read ((m, d) :: fs) n = if n = m then some d else FS.read fs n := by
  unfold FS.read
  rw [List.find?_cons]
  by_cases h : n = m
  · simp [h]
  · have : (m == n) = false := by simpa using Ne.symm h
    simp [h, this]

theorem read_write (fs : FS) (n : String) (c : Content) (m : String) :
    (fs.write n c).read m = if m = n then some c else fs.read m := by
  induction fs with
  | nil => exact read_cons n c [] m
  | cons x fs ih =>
    obtain ⟨k, e⟩ := x
    unfold FS.write
    split
    · exact read_cons n c _ m
    · split
      · rename_i _ hk
        subst hk
        rw [read_cons, read_cons]
        split <;> rfl
      · rename_i _ hk
        rw [read_cons, read_cons, ih]
        by_cases h1 : m = k
        · rw [if_pos h1, if_neg (h1 ▸ Ne.symm hk), if_pos h1]
        · rw [if_neg h1, if_neg h1]

theorem read_remove (fs : FS) (p : String → Bool) (n : String) :
    (fs.remove p).read n = if p n then none else fs.read n := by
  induction fs with
  | nil => simp [FS.remove]
  | cons x fs ih =>
    obtain ⟨k, e⟩ := x
    unfold FS.remove at ih ⊢
    rw [List.filter_cons, read_cons]
    by_cases hk : p k = true
    · rw [if_neg (by simpa using hk), ih]
      by_cases h : n = k
      · rw [h, if_pos hk, if_pos hk]
      · rw [if_neg h]
    · rw [if_pos (by simpa using hk), read_cons, ih]
      by_cases h : n = k
      · rw [if_pos h, if_pos h, h, if_neg hk]
      · rw [if_neg h, if_neg h]

theorem mem_names_iff (fs : FS) (n : String) : n ∈ fs.names ↔ fs.read n ≠ none := by
  induction fs with
  | nil => simp [FS.names]
  | cons x fs ih =>
    obtain ⟨k, e⟩ := x
    rw [read_cons]
    simp only [FS.names, List.map_cons, List.mem_cons] at ih ⊢
    by_cases h : n = k
    · simp [h]
    · simp [h, ih]

theorem write_comm (fs : FS) (n m : String) (c d : Content) (h : n ≠ m) :
    (fs.write n c).write m d = (fs.write m d).write n c := by
  -- the statement is symmetric: let `n` be the smaller name
  wlog hnm : n < m generalizing n m c d with H
  · rcases name_trichotomy n m with h1 | h1 | h1
    exacts [absurd h1 hnm, absurd h1 h, (H m n d c h.symm h1).symm]
  have hmn : ¬ m < n := String.lt_asymm hnm
  induction fs with
  | nil => simp [FS.write, hnm, hmn, h.symm]
  | cons x fs ih =>
    obtain ⟨k, e⟩ := x
    rcases name_trichotomy m k with hm | rfl | hm
    · -- both come before `k`
      simp [FS.write, String.lt_trans hnm hm, hm, hnm, hmn, h.symm]
    · simp [FS.write, hnm, hmn, h.symm, String.lt_irrefl]
    · have hmk : ¬ m < k := String.lt_asymm hm
      have hmk' : m ≠ k := (String.ne_of_lt hm).symm
      rcases name_trichotomy n k with hn | rfl | hn
      · simp [FS.write, hn, hmk, hmk', hmn, h.symm]
      · simp [FS.write, hmk, hmk', String.lt_irrefl]
      · simp [FS.write, String.lt_asymm hn, (String.ne_of_lt hn).symm, hmk, hmk', ih]

theorem mem_write (fs : FS) (n : String) (c : Content) (x : String × Content) (hx : x ∈ fs.write n c) :
    x ∈ fs ∨ x = (n, c) := by
  induction fs with
  | nil => exact Or.inr (List.mem_singleton.mp hx)
  | cons y fs ih =>
    obtain ⟨k, e⟩ := y
    unfold FS.write at hx
    split at hx
    · exact (List.mem_cons.mp hx).symm
    · split at hx
      · exact (List.mem_cons.mp hx).symm.imp_left (List.mem_cons_of_mem _)
      · rcases List.mem_cons.mp hx with h | h
        · exact Or.inl (h ▸ List.mem_cons_self)
        · exact (ih h).imp_left (List.mem_cons_of_mem _)

theorem WF_write {fs : FS} (h : fs.WF) (n : String) (c : Content) : (fs.write n c).WF := by
  induction fs with
  | nil => simp [FS.write, FS.WF]
  | cons y fs ih =>
    obtain ⟨k, e⟩ := y
    unfold FS.WF at h ih ⊢
    rw [List.pairwise_cons] at h
    unfold FS.write
    split
    · rename_i hn
      rw [List.pairwise_cons]
      refine ⟨?_, List.pairwise_cons.mpr h⟩
      intro x hx hr
      rcases List.mem_cons.mp hx with rfl | hx
      · exact hn
      · exact String.lt_trans hn (h.1 x hx hr)
    · split
      · rename_i _ hk
        subst hk
        rw [List.pairwise_cons]
        exact ⟨h.1, h.2⟩
      · rename_i hn hk
        rw [List.pairwise_cons]
        refine ⟨?_, ih h.2⟩
        intro x hx hr
        rcases mem_write fs n c x hx with hx | rfl
        · exact h.1 x hx hr
        · rcases name_trichotomy n k with h1 | h1 | h1
          · exact absurd h1 hn
          · exact absurd h1 hk
          · exact h1

theorem WF_remove {fs : FS} (h : fs.WF) (p : String → Bool) : (fs.remove p).WF :=
  List.Pairwise.filter _ h

theorem WF_purge (fs0 : FS) : (purge fs0).WF := by
  apply List.pairwise_of_forall_mem_list
  intro a _ b hb hr
  -- `b` survived the purge, so it is no round file
  have hkept : (!(isRoundFile b.1 || isFinalFile b.1)) = true := (List.mem_filter.mp hb).2
  rw [hr] at hkept
  cases hkept

theorem writeAll_nil (fs : FS) : writeAll fs [] = fs := rfl

theorem writeAll_cons (fs : FS) (w : String × Content) (ws : Writes) :
    writeAll fs (w :: ws) = writeAll (fs.write w.1 w.2) ws := rfl

theorem writeAll_append (fs : FS) (a b : Writes) : writeAll fs (a ++ b) = writeAll (writeAll fs a) b := by
  simp [writeAll, List.foldl_append]

theorem WF_writeAll {fs : FS} (h : fs.WF) (ws : Writes) : (writeAll fs ws).WF := by
  induction ws generalizing fs with
  | nil => exact h
  | cons w ws ih => exact ih (WF_write h _ _)

theorem read_writeAll_of_not_mem (fs : FS) {ws : Writes} {n : String} (h : n ∉ ws.map (·.1)) :
    (writeAll fs ws).read n = fs.read n := by
  induction ws generalizing fs with
  | nil => rfl
  | cons w ws ih =>
    simp only [List.map_cons, List.mem_cons, not_or] at h
    rw [writeAll_cons, ih _ h.2, read_write, if_neg h.1]

theorem read_writeAll_of_mem (fs : FS) {ws : Writes} (hnd : (ws.map (·.1)).Nodup) {w : String × Content}
    (hw : w ∈ ws) : (writeAll fs ws).read w.1 = some w.2 := by
  induction ws generalizing fs with
  | nil => simp at hw
  | cons v ws ih =>
    simp only [List.map_cons, List.nodup_cons] at hnd
    rw [writeAll_cons]
    rcases List.mem_cons.mp hw with rfl | hw
    · rw [read_writeAll_of_not_mem _ hnd.1, read_write, if_pos rfl]
    · exact ih _ hnd.2 hw

theorem read_writeAll_cases (fs : FS) (ws : Writes) (n : String) :
    (writeAll fs ws).read n = fs.read n ∨ ∃ w ∈ ws, w.1 = n ∧ (writeAll fs ws).read n = some w.2 := by
  induction ws using List.reverseRecOn with
  | nil => exact Or.inl rfl
  | append_singleton ws w ih =>
    rw [writeAll_append, writeAll_cons, writeAll_nil, read_write]
    by_cases h : n = w.1
    · exact Or.inr ⟨w, by simp, h.symm, by simp [h]⟩
    · rw [if_neg h]
      rcases ih with h1 | ⟨v, hv, h1, h2⟩
      · exact Or.inl h1
      · exact Or.inr ⟨v, by simp [hv], h1, h2⟩

theorem writeAll_comm (fs : FS) {a b : Writes} (h : ∀ x ∈ a, ∀ y ∈ b, x.1 ≠ y.1) :
    writeAll (writeAll fs a) b = writeAll (writeAll fs b) a := by
  induction a generalizing fs with
  | nil => rfl
  | cons x a ih =>
    have hx : ∀ (b : Writes) (fs : FS), (∀ y ∈ b, x.1 ≠ y.1) →
        writeAll (fs.write x.1 x.2) b = (writeAll fs b).write x.1 x.2 := by
      intro b
      induction b with
      | nil => intro fs _; rfl
      | cons y b ihb =>
        intro fs hy
        rw [writeAll_cons, writeAll_cons, write_comm _ _ _ _ _ (hy y (by simp)),
          ihb _ (fun y' hy' => hy y' (List.mem_cons_of_mem _ hy'))]
    rw [writeAll_cons, ih _ (fun x' hx' => h x' (List.mem_cons_of_mem _ hx')),
      hx b fs (fun y hy => h x (by simp) y hy), writeAll_cons]

theorem execRound_nil (fs : FS) : execRound fs [] = .ok fs := rfl

theorem execRound_cons_ok (fs : FS) (ws : Writes) (ts : List (Except Err Writes)) :
    execRound fs (.ok ws :: ts) = execRound (writeAll fs ws) ts := by
  simp [execRound, List.foldlM_cons, Except.map, bind, Except.bind]

theorem execRound_cons_error (fs : FS) (e : Err) (ts : List (Except Err Writes)) :
    execRound fs (.error e :: ts) = .error e := by
  simp [execRound, List.foldlM_cons, Except.map, bind, Except.bind]

theorem execRound_ok_iff (ts : List (Except Err Writes)) (fs fs' : FS) :
    execRound fs ts = .ok fs' ↔ ∃ wss : List Writes, ts = wss.map .ok ∧ fs' = writeAll fs wss.flatten := by
  induction ts generalizing fs with
  | nil =>
    rw [execRound_nil, Except.ok.injEq]
    exact ⟨fun h => ⟨[], rfl, h.symm⟩, fun ⟨wss, h1, h2⟩ => by
      rw [List.map_eq_nil_iff.mp h1.symm] at h2; exact h2.symm⟩
  | cons t ts ih =>
    cases t with
    | error e =>
      rw [execRound_cons_error]
      exact ⟨fun h => (nomatch h), fun ⟨wss, h1, _⟩ => by cases wss <;> cases h1⟩
    | ok ws =>
      rw [execRound_cons_ok, ih]
      constructor
      · rintro ⟨wss, rfl, rfl⟩
        exact ⟨ws :: wss, rfl, by rw [List.flatten_cons, writeAll_append]⟩
      · rintro ⟨wss, h1, rfl⟩
        cases wss with
        | nil => cases h1
        | cons a wss =>
          cases h1
          exact ⟨wss, rfl, by rw [List.flatten_cons, writeAll_append]⟩

/-- the write sets of two tasks are disjoint -/
def DisjointTasks (a b : Except Err Writes) : Prop :=
  ∀ wa wb, a = .ok wa → b = .ok wb → ∀ x ∈ wa, ∀ y ∈ wb, x.1 ≠ y.1


theorem execRound_map_ok {fs : FS} {tasks : List (Except Err Writes)} {wss : List Writes} (e : tasks = wss.map .ok) :
    execRound fs tasks = .ok (writeAll fs wss.flatten) :=
  (execRound_ok_iff _ _ _).mpr ⟨wss, e, rfl⟩

theorem tasks_all_ok {ts : List (Except Err Writes)} (h : ∀ t ∈ ts, ∃ ws, t = .ok ws) :
    ∃ wss : List Writes, ts = wss.map .ok := by
  induction ts with
  | nil => exact ⟨[], rfl⟩
  | cons t ts ih =>
    obtain ⟨ws, rfl⟩ := h t (by simp)
    obtain ⟨wss, rfl⟩ := ih fun t' ht' => h t' (List.mem_cons_of_mem _ ht')
    exact ⟨ws :: wss, rfl⟩

theorem DisjointTasks.symm {a b : Except Err Writes} (h : DisjointTasks a b) : DisjointTasks b a :=
  fun wa wb ha hb x hx y hy => (h wb wa hb ha y hy x hx).symm

/-- `toOption`: both orders fail, or both succeed with the same directory -/
theorem execRound_perm {ts ts' : List (Except Err Writes)} (hp : ts'.Perm ts)
    (hd : ts.Pairwise DisjointTasks) (fs : FS) :
    (execRound fs ts').toOption = (execRound fs ts).toOption := by
  induction hp generalizing fs with
  | nil => rfl
  | cons t _ ih =>
    rw [List.pairwise_cons] at hd
    cases t with
    | error e => rw [execRound_cons_error, execRound_cons_error]
    | ok ws => rw [execRound_cons_ok, execRound_cons_ok]; exact ih hd.2 _
  | swap a b l =>
    rw [List.pairwise_cons, List.pairwise_cons] at hd
    cases a with
    | error e =>
      cases b with
      | error e' => rw [execRound_cons_error, execRound_cons_error]; rfl
      | ok wb => rw [execRound_cons_ok, execRound_cons_error, execRound_cons_error]
    | ok wa =>
      cases b with
      | error e' => rw [execRound_cons_ok, execRound_cons_error, execRound_cons_error]
      | ok wb =>
        rw [execRound_cons_ok, execRound_cons_ok, execRound_cons_ok, execRound_cons_ok,
          writeAll_comm fs (a := wb) (b := wa) (fun x hx y hy => (hd.1 (.ok wb) (by simp) wa wb rfl rfl y hy x hx).symm)]
  | trans _ h2 ih1 ih2 =>
    have hd' := (h2.pairwise_iff (fun {a b} (h : DisjointTasks a b) => h.symm)).mpr hd
    rw [ih1 hd' fs, ih2 hd fs]

theorem glob_eq_filter (fs : FS) (pre ext : String) :
    fs.glob pre ext = fs.names.filter (fun n => n.startsWith pre && n.endsWith ext) := rfl

theorem prevPairs_eq (fs : FS) (r : Nat) :
    prevPairs fs r = ((fs.names.filter (matchB (r - 1))).mergeSort (· ≤ ·)).zip
      ((fs.names.filter (matchI (r - 1))).mergeSort (· ≤ ·)) := rfl

theorem mem_listing {fs : FS} {m : String → Bool} {n : String} :
    n ∈ fs.names.filter m ↔ fs.read n ≠ none ∧ m n = true := by
  rw [List.mem_filter, mem_names_iff]

theorem mem_glob_buf {fs : FS} {r : Nat} {n : String} :
    n ∈ fs.glob (bufPrefix r) ".npy" ↔ fs.read n ≠ none ∧ matchB r n = true := mem_listing

theorem mem_glob_idx {fs : FS} {r : Nat} {n : String} :
    n ∈ fs.glob (idxPrefix r) ".pkl" ↔ fs.read n ≠ none ∧ matchI r n = true := mem_listing

theorem of_mem_prevPairs {fs : FS} {r : Nat} {p : String × String} (hp : p ∈ prevPairs fs r) :
    (fs.read p.1 ≠ none ∧ matchB (r - 1) p.1 = true) ∧ (fs.read p.2 ≠ none ∧ matchI (r - 1) p.2 = true) := by
  have := List.of_mem_zip (show (p.1, p.2) ∈ _ from hp)
  rwa [List.mem_mergeSort, List.mem_mergeSort, mem_glob_buf, mem_glob_idx] at this

theorem listing_nodup {fs : FS} (h : fs.WF) {m : String → Bool} (hr : ∀ n, m n = true → isRoundFile n = true) :
    (fs.names.filter m).Nodup := by
  have e : fs.names.filter m = (fs.filter (fun x => m x.1)).map (·.1) := by
    rw [FS.names, List.filter_map]; rfl
  rw [e, List.nodup_iff_pairwise_ne, List.pairwise_map]
  have hf : (fs.filter (fun x => m x.1)).Pairwise (fun a b => isRoundFile b.1 = true → a.1 < b.1) :=
    List.Pairwise.filter _ h
  exact hf.imp_of_mem fun _ hb hab => String.ne_of_lt (hab (hr _ (List.mem_filter.mp hb).2))

/-- the order on names is linear -/
theorem mergeSort_names_perm {l l' : List String} (h : l.Perm l') :
    l.mergeSort (· ≤ ·) = l'.mergeSort (· ≤ ·) := by
  have tr : ∀ a b c : String, decide (a ≤ b) = true → decide (b ≤ c) = true → decide (a ≤ c) = true := by
    intro a b c h1 h2
    simp only [decide_eq_true_eq] at *
    exact String.le_trans h1 h2
  have tot : ∀ a b : String, (decide (a ≤ b) || decide (b ≤ a)) = true := by
    intro a b
    simp only [Bool.or_eq_true, decide_eq_true_eq]
    exact String.le_total a b
  have s1 := List.pairwise_mergeSort tr tot l
  have s2 := List.pairwise_mergeSort tr tot l'
  refine List.Perm.eq_of_pairwise (le := fun a b => decide (a ≤ b) = true) ?_ s1 s2
    ((List.mergeSort_perm l _).trans (h.trans (List.mergeSort_perm l' _).symm))
  intro a b _ _ h1 h2
  simp only [decide_eq_true_eq] at h1 h2
  exact String.le_antisymm h1 h2

end BB.MR
