/-
GenEq5 — `cli._validate_output_dir`, as translated, is the model's `validateOutputDir`.
The directory is an opaque parameter: `out_dir.exists()`, `out_dir.is_dir()`, `any(out_dir.iterdir())` are
inputs, `shutil.rmtree(out_dir)` and `out_dir.mkdir()` are recorded effects.
-/
import BBProofs.GenEq
import BBModel.Cli

namespace BB
open PV BB.Cli

/-- an existing directory with the listing `entries` -/
theorem gen_validate (expf : Rat → Rat) (entries : List String) (overwrite : Bool) :
    BBGen._validate_output_dir expf (PV.bool overwrite) (PV.bool (!entries.isEmpty)) (PV.bool true) (PV.bool true)
      = match validateOutputDir entries overwrite with
        | .error _ => [PV.err "RuntimeError"]
        | .ok _ => if entries.isEmpty then []
                   else [PV.str "shutil.rmtree", PV.str "out_dir", PV.str "out_dir.mkdir"] := by
  cases h : entries.isEmpty <;> cases overwrite <;> simp only [BBGen._validate_output_dir, validateOutputDir, pv, h]

/-- a path that does not exist yet -/
theorem gen_validate_absent (expf : Rat → Rat) (a b c : PV) :
    BBGen._validate_output_dir expf a b (PV.bool false) c = [] := by
  simp only [BBGen._validate_output_dir, pv]

/-- an existing path that is not a directory -/
theorem gen_validate_notdir (expf : Rat → Rat) (a b : PV) :
    BBGen._validate_output_dir expf a b (PV.bool true) (PV.bool false) = [PV.err "RuntimeError"] := by
  simp only [BBGen._validate_output_dir, pv]

end BB
