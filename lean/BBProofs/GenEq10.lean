/-
GenEq10 — the reader of the peak file, `_memory.get_peak_memory_gib`, as translated, performs the four steps of
the model's reader (`BB.Mon.rstep`: existence test, open, read, parse) in this order, with the model's outcomes:
no file → `None`; a complete text → its value; an empty file → `ValueError`.
`file.exists()` and the text returned by `f.read()` are inputs; `float(text.strip())` is `PV.floatOf ∘ PV.strStrip`
(decimal literals; validated against the interpreter by S-GEN on reprs of floats and on their proper prefixes).
-/
import BBProofs.GenEq
import BBModel.Monitor

namespace BB
open PV BB.Mon

/-- no peak file (model: `.start ↦ .done none`) -/
theorem gen_reader_absent (expf : Rat → Rat) (dir : String) (content : PV) :
    BBGen.get_peak_memory_gib expf (PV.str dir) content (PV.bool false) = [PV.pynone] := by
  simp only [BBGen.get_peak_memory_gib, pv]

/-- the file exists; the last element is the value, or the `ValueError` the function raises -/
theorem gen_reader_present (expf : Rat → Rat) (dir : String) (content : PV) :
    BBGen.get_peak_memory_gib expf (PV.str dir) content (PV.bool true)
      = [PV.str "open", PV.str (dir ++ "/" ++ "max-rss.txt"), PV.str "r",
         PV.str "read", PV.str (dir ++ "/" ++ "max-rss.txt"),
         PV.str "close", PV.str (dir ++ "/" ++ "max-rss.txt"),
         PV.floatOf (PV.strStrip content)] := by
  simp only [BBGen.get_peak_memory_gib, pv]

/-- an empty file (what a truncating writer exposes) makes the reader raise (model: `.read .empty ↦ .error`) -/
theorem floatOf_empty : PV.floatOf (PV.strStrip (PV.str "")) = PV.err "ValueError" := by decide +kernel

theorem floatOf_newline : PV.floatOf (PV.strStrip (PV.str "\n")) = PV.err "ValueError" := by decide +kernel

/-- a complete text is read back as its value, e.g. -/
example : PV.floatOf (PV.strStrip (PV.str "0.75\n")) = PV.flt (some (3 / 4)) := by decide +kernel

/-- a proper prefix of a longer text is read as another number (model: `.read .part ↦ .wrong`), e.g. `12.5` cut after `12` -/
example : PV.floatOf (PV.strStrip (PV.str "12")) = PV.flt (some 12) ∧
    PV.floatOf (PV.strStrip (PV.str "12.5\n")) = PV.flt (some (25 / 2)) := by decide +kernel

end BB
