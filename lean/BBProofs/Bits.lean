/-
Helper lemmas about the L0 model (`BBModel/Bits.lean`) and the count-level Tanimoto
primitives of `BBModel/Similarity.lean`.

A byte is the Horner value `2 * x + b2n a` of eight bits, most significant first; the byte facts
(`bitsOfByte` / `byteOfBits` inverse to each other, popcounts, `&&&`) are that step applied eight
times.  `argminFirst` is `argmaxFirst` for the reversed order, so `argmaxFirst_spec` serves both.
`colSum` is the fold of the pointwise sum `addLs` over the rows, entry `i` counting the rows with
bit `i` set; the centroid is the majority vote on those counts.
-/
import BBModel.Bits
import BBModel.Similarity
import Mathlib.Order.Monotone.Basic
import Mathlib.Algebra.Order.Field.Rat
import Mathlib.Algebra.Order.Field.Basic
import Mathlib.Tactic.Positivity
import Mathlib.Order.OrderDual

namespace BB

/-- induction on two lists of equal length -/
@[elab_as_elim]
theorem length_eq_induction {α β : Type _}
    {motive : (a : List α) → (b : List β) → a.length = b.length → Prop} (nil : motive [] [] rfl)
    (cons : ∀ x a y b (h : a.length = b.length), motive a b h →
      motive (x :: a) (y :: b) (congrArg (· + 1) h)) :
    ∀ a b (h : a.length = b.length), motive a b h
  | [], [], _ => nil
  | x :: a, y :: b, h =>
    cons x a y b (Nat.succ.inj h) (length_eq_induction nil cons a b (Nat.succ.inj h))

/-- numeric value of a bit -/
def b2n (b : Bool) : Nat := if b then 1 else 0

theorem b2n_le_one (b : Bool) : b2n b ≤ 1 := by cases b <;> simp [b2n]

theorem byteOfBits_eq (l : List Bool) : byteOfBits l =
    2 * (2 * (2 * (2 * (2 * (2 * (2 * (2 * 0 + b2n (l.getD 0 false)) + b2n (l.getD 1 false))
      + b2n (l.getD 2 false)) + b2n (l.getD 3 false)) + b2n (l.getD 4 false))
      + b2n (l.getD 5 false)) + b2n (l.getD 6 false)) + b2n (l.getD 7 false) := rfl

theorem twoMulAdd_mod (x : Nat) (a : Bool) : (2 * x + b2n a) % 2 = b2n a := by
  have := b2n_le_one a; omega

theorem twoMulAdd_div (x : Nat) (a : Bool) : (2 * x + b2n a) / 2 = x := by
  have := b2n_le_one a; omega

theorem b2n_decide_mod (n : Nat) : b2n (decide (n % 2 = 1)) = n % 2 := by
  rcases Nat.mod_two_eq_zero_or_one n with h | h <;> simp [h, b2n]

theorem b2n_testBit (n i : Nat) : b2n (n.testBit i) = n / 2 ^ i % 2 := by
  rw [Nat.testBit_eq_decide_div_mod_eq, b2n_decide_mod]

theorem twoMulAdd_testBit (x : Nat) (a : Bool) (i : Nat) :
    (2 * x + b2n a).testBit i = if i = 0 then a else x.testBit (i - 1) := by
  cases i with
  | zero => rw [Nat.testBit_zero, twoMulAdd_mod, if_pos rfl]; cases a <;> rfl
  | succ i => rw [Nat.testBit_succ, twoMulAdd_div, if_neg (Nat.succ_ne_zero i), Nat.add_sub_cancel]

theorem bitsOfByte_eq (b : Nat) : bitsOfByte b =
    [b.testBit 7, b.testBit 6, b.testBit 5, b.testBit 4, b.testBit 3, b.testBit 2, b.testBit 1,
     b.testBit 0] := by
  simp [bitsOfByte, List.range_succ, Nat.testBit_eq_decide_div_mod_eq]

theorem byteOfBits_bitsOfByte (b : Nat) (h : b < 256) : byteOfBits (bitsOfByte b) = b := by
  rw [byteOfBits_eq, bitsOfByte_eq]
  simp only [List.getD_cons_zero, List.getD_cons_succ, b2n_testBit]
  -- Horner's rule on the binary digits `b / 2 ^ i % 2`, `i < 8`: `2 * (m / 2) + m % 2 = m`, from the top digit down
  have e : ∀ i, b / 2 ^ (i + 1) = b / 2 ^ i / 2 := fun i => by
    rw [Nat.pow_succ, Nat.div_div_eq_div_mul]
  have top : b / 2 / 2 / 2 / 2 / 2 / 2 / 2 < 2 := by omega
  simp only [e, Nat.pow_zero, Nat.div_one, Nat.mul_zero, Nat.zero_add, Nat.mod_eq_of_lt top, Nat.div_add_mod]

/-- the eight bits `byteOfBits` looks at -/
def pad8 (l : List Bool) : List Bool :=
  [l.getD 0 false, l.getD 1 false, l.getD 2 false, l.getD 3 false,
   l.getD 4 false, l.getD 5 false, l.getD 6 false, l.getD 7 false]

theorem bitsOfByte_byteOfBits_pad (l : List Bool) : bitsOfByte (byteOfBits l) = pad8 l := by
  rw [byteOfBits_eq, bitsOfByte_eq]
  simp only [twoMulAdd_testBit]
  rfl

theorem pad8_eq (l : List Bool) (h : l.length ≤ 8) :
    pad8 l = l ++ List.replicate (8 - l.length) false := by
  match l, h with
  | [], _ => rfl
  | [_], _ => rfl
  | [_, _], _ => rfl
  | [_, _, _], _ => rfl
  | [_, _, _, _], _ => rfl
  | [_, _, _, _, _], _ => rfl
  | [_, _, _, _, _, _], _ => rfl
  | [_, _, _, _, _, _, _], _ => rfl
  | [_, _, _, _, _, _, _, _], _ => rfl
  | _ :: _ :: _ :: _ :: _ :: _ :: _ :: _ :: _ :: _, h =>
    simp only [List.length_cons] at h; omega

theorem bitsOfByte_byteOfBits (l : List Bool) (h : l.length ≤ 8) :
    bitsOfByte (byteOfBits l) = l ++ List.replicate (8 - l.length) false := by
  rw [bitsOfByte_byteOfBits_pad, pad8_eq l h]

theorem byteOfBits_lt (l : List Bool) : byteOfBits l < 256 := by
  rw [byteOfBits_eq]
  have h0 := b2n_le_one (l.getD 0 false)
  have h1 := b2n_le_one (l.getD 1 false)
  have h2 := b2n_le_one (l.getD 2 false)
  have h3 := b2n_le_one (l.getD 3 false)
  have h4 := b2n_le_one (l.getD 4 false)
  have h5 := b2n_le_one (l.getD 5 false)
  have h6 := b2n_le_one (l.getD 6 false)
  have h7 := b2n_le_one (l.getD 7 false)
  omega

theorem bitsOfByte_length (b : Nat) : (bitsOfByte b).length = 8 := by
  simp [bitsOfByte]

theorem pack_nil : pack [] = [] := by rw [pack]

theorem pack_cons (b : Bool) (bs : List Bool) :
    pack (b :: bs) = byteOfBits ((b :: bs).take 8) :: pack ((b :: bs).drop 8) := by
  rw [pack]

theorem pack_of_ne_nil (r : Row) (h : r ≠ []) :
    pack r = byteOfBits (r.take 8) :: pack (r.drop 8) := by
  cases r with
  | nil => exact absurd rfl h
  | cons b bs => exact pack_cons b bs

theorem pack_length (r : Row) : (pack r).length = (r.length + 7) / 8 := by
  induction r using pack.induct with
  | case1 => simp [pack_nil]
  | case2 b bs ih =>
    rw [pack_cons, List.length_cons, ih]
    simp only [List.length_drop, List.length_cons]
    omega

theorem pack_lt (r : Row) : ∀ b ∈ pack r, b < 256 := by
  induction r using pack.induct with
  | case1 => simp [pack_nil]
  | case2 b bs ih =>
    rw [pack_cons]
    intro x hx
    rcases List.mem_cons.mp hx with rfl | hx
    · exact byteOfBits_lt _
    · exact ih x hx

theorem flatMap_pack (r : Row) :
    ∃ k, (pack r).flatMap bitsOfByte = r ++ List.replicate k false := by
  induction r using pack.induct with
  | case1 => exact ⟨0, by simp [pack_nil]⟩
  | case2 b bs ih =>
    obtain ⟨k, hk⟩ := ih
    by_cases hl : 8 ≤ (b :: bs).length
    · refine ⟨k, ?_⟩
      have h8 : ((b :: bs).take 8).length = 8 := by
        rw [List.length_take]; omega
      rw [pack_cons, List.flatMap_cons, hk, bitsOfByte_byteOfBits _ (le_of_eq h8), h8]
      simp only [Nat.sub_self, List.replicate_zero, List.append_nil]
      rw [← List.append_assoc, List.take_append_drop]
    · have hd : (b :: bs).drop 8 = [] := by
        apply List.drop_eq_nil_of_le; omega
      have ht : (b :: bs).take 8 = b :: bs := by
        apply List.take_of_length_le; omega
      refine ⟨8 - (b :: bs).length, ?_⟩
      rw [pack_cons, hd, ht, pack_nil, List.flatMap_cons, List.flatMap_nil, List.append_nil,
        bitsOfByte_byteOfBits _ (by omega)]

theorem unpack_pack (r : Row) : unpack (pack r) r.length = r := by
  obtain ⟨k, hk⟩ := flatMap_pack r
  unfold unpack
  simp only [hk, List.append_assoc]
  exact List.take_left' rfl

theorem map_unpack_pack (rows : List Row) (F : Nat) (hF : ∀ r ∈ rows, r.length = F) :
    (rows.map pack).map (fun b => unpack b F) = rows := by
  rw [List.map_map]
  conv => rhs; rw [← List.map_id rows]
  exact List.map_congr_left (fun r hr => by simp only [Function.comp, id, ← hF r hr, unpack_pack])

theorem pack_append_of_length_eq_8 (l₁ l₂ : Row) (h : l₁.length = 8) :
    pack (l₁ ++ l₂) = byteOfBits l₁ :: pack l₂ := by
  have hne : l₁ ++ l₂ ≠ [] :=
    List.append_ne_nil_of_left_ne_nil (List.ne_nil_of_length_pos (h ▸ Nat.succ_pos 7)) _
  rw [pack_of_ne_nil _ hne, List.take_left' h, List.drop_left' h]

theorem pack_flatMap_bitsOfByte (bs : List Nat) (h : ∀ b ∈ bs, b < 256) :
    pack (bs.flatMap bitsOfByte) = bs := by
  induction bs with
  | nil => simp [pack_nil]
  | cons b bs ih =>
    rw [List.flatMap_cons, pack_append_of_length_eq_8 _ _ (bitsOfByte_length b),
      byteOfBits_bitsOfByte b (h b (by simp)), ih (fun x hx => h x (by simp [hx]))]

theorem length_flatMap_bitsOfByte (bs : List Nat) :
    (bs.flatMap bitsOfByte).length = 8 * bs.length := by
  induction bs with
  | nil => simp
  | cons b bs ih => simp [List.flatMap_cons, bitsOfByte_length, ih]; omega

theorem unpack_full (bs : List Nat) : unpack bs (8 * bs.length) = bs.flatMap bitsOfByte := by
  unfold unpack
  simp only [length_flatMap_bitsOfByte, Nat.sub_self, List.replicate_zero, List.append_nil]
  apply List.take_of_length_le
  rw [length_flatMap_bitsOfByte]

theorem pack_unpack (bs : List Nat) (h : ∀ b ∈ bs, b < 256) :
    pack (unpack bs (8 * bs.length)) = bs := by
  rw [unpack_full, pack_flatMap_bitsOfByte bs h]

theorem count_true_replicate_false (k : Nat) : (List.replicate k false).count true = 0 := by
  rw [List.count_replicate]; rfl

theorem popBytes_eq_count (bs : List Nat) :
    popBytes bs = (bs.flatMap bitsOfByte).count true := by
  induction bs with
  | nil => rfl
  | cons b bs ih =>
    rw [List.flatMap_cons, List.count_append, ← ih]
    simp [popBytes, popByte]

theorem popBytes_le (bs : List Nat) : popBytes bs ≤ 8 * bs.length := by
  rw [popBytes_eq_count]
  calc _ ≤ (bs.flatMap bitsOfByte).length := List.count_le_length
    _ = _ := length_flatMap_bitsOfByte bs

theorem popBytes_pack (r : Row) : popBytes (pack r) = popc r := by
  obtain ⟨k, hk⟩ := flatMap_pack r
  rw [popBytes_eq_count, hk, List.count_append, count_true_replicate_false]
  rfl

theorem popByte_byteOfBits (l : List Bool) (h : l.length ≤ 8) :
    popByte (byteOfBits l) = popc l := by
  unfold popByte
  rw [bitsOfByte_byteOfBits l h, List.count_append, count_true_replicate_false]
  rfl

theorem popc_le_length (r : Row) : popc r ≤ r.length := List.count_le_length

theorem popc_cons (a : Bool) (l : Row) : popc (a :: l) = popc l + b2n a := by
  cases a <;> simp [popc, b2n]

theorem andRow_cons_cons (x y : Bool) (a b : Row) : andRow (x :: a) (y :: b) = (x && y) :: andRow a b := rfl

theorem orRow_cons_cons (x y : Bool) (a b : Row) : orRow (x :: a) (y :: b) = (x || y) :: orRow a b := rfl

theorem andBytes_cons_cons (x y : Nat) (a b : List Nat) :
    andBytes (x :: a) (y :: b) = Nat.land x y :: andBytes a b := rfl

theorem wordOfBytes_cons (x : Nat) (a : List Nat) :
    wordOfBytes (x :: a) = x + 256 * wordOfBytes a := rfl

theorem popc_andRow_le_left (a b : Row) : popc (andRow a b) ≤ popc a := by
  induction a generalizing b with
  | nil => simp [andRow, popc]
  | cons x xs ih =>
    cases b with
    | nil => simp [andRow, popc]
    | cons y ys =>
      have hb : b2n (x && y) ≤ b2n x := by cases x <;> cases y <;> decide
      have := ih ys
      rw [andRow_cons_cons, popc_cons, popc_cons]
      omega

theorem andRow_comm (a b : Row) : andRow a b = andRow b a := by
  unfold andRow
  exact List.zipWith_comm_of_comm (fun x y => Bool.and_comm x y)

theorem popc_andRow_le_right (a b : Row) : popc (andRow a b) ≤ popc b := by
  rw [andRow_comm]; exact popc_andRow_le_left b a

theorem andRow_self (a : Row) : andRow a a = a := by
  induction a with
  | nil => rfl
  | cons x xs ih => simp_all [andRow]

/-- inclusion–exclusion, bit by bit: `b2n (x || y) + b2n (x && y) = b2n x + b2n y` -/
theorem popc_orRow (a b : Row) (h : a.length = b.length) :
    popc (orRow a b) + popc (andRow a b) = popc a + popc b := by
  induction a, b, h using length_eq_induction with
  | nil => rfl
  | cons x a y b _ ih =>
    have hb : b2n (x || y) + b2n (x && y) = b2n x + b2n y := by cases x <;> cases y <;> rfl
    rw [orRow_cons_cons, andRow_cons_cons, popc_cons, popc_cons, popc_cons, popc_cons]
    omega

theorem popc_union_le (a b : Row) (h : a.length = b.length) :
    popc a + popc b ≤ popc (andRow a b) + a.length := by
  have h1 := popc_orRow a b h
  have h2 : popc (orRow a b) ≤ a.length := by
    have := popc_le_length (orRow a b)
    simpa [orRow, h] using this
  omega

/-- `&&&` acts digit by digit in radix `2 ^ k` (bits: `k = 1`, bytes of a word: `k = 8`) -/
theorem land_digit (k : Nat) {x y : Nat} (hx : x < 2 ^ k) (hy : y < 2 ^ k) (a b : Nat) :
    (x + 2 ^ k * a) &&& (y + 2 ^ k * b) = (x &&& y) + 2 ^ k * (a &&& b) := by
  have hxy : x &&& y < 2 ^ k := Nat.lt_of_le_of_lt Nat.and_le_left hx
  rw [Nat.add_comm x, Nat.add_comm y, Nat.add_comm (x &&& y)]
  apply Nat.eq_of_testBit_eq
  intro i
  rw [Nat.testBit_and, Nat.testBit_two_pow_mul_add _ hx, Nat.testBit_two_pow_mul_add _ hy,
    Nat.testBit_two_pow_mul_add _ hxy]
  split <;> simp [Nat.testBit_and]

theorem land_step (x y : Nat) (a b : Bool) :
    Nat.land (2 * x + b2n a) (2 * y + b2n b) = 2 * Nat.land x y + b2n (a && b) := by
  have h := land_digit 1 (Nat.lt_succ_of_le (b2n_le_one a)) (Nat.lt_succ_of_le (b2n_le_one b)) x y
  rw [show b2n a &&& b2n b = b2n (a && b) by cases a <;> cases b <;> rfl, Nat.pow_one,
    Nat.add_comm, Nat.add_comm (b2n b), Nat.add_comm (b2n _)] at h
  exact h

theorem getD_andRow (a b : Row) (i : Nat) :
    (andRow a b).getD i false = (a.getD i false && b.getD i false) := by
  simp only [andRow, List.getD_eq_getElem?_getD, List.getElem?_zipWith]
  cases a[i]? <;> cases b[i]? <;> simp

theorem land_byteOfBits (a b : Row) :
    Nat.land (byteOfBits a) (byteOfBits b) = byteOfBits (andRow a b) := by
  rw [byteOfBits_eq a, byteOfBits_eq b, byteOfBits_eq (andRow a b)]
  simp only [getD_andRow, land_step]
  rfl

theorem andBytes_pack (a b : Row) (h : a.length = b.length) :
    andBytes (pack a) (pack b) = pack (andRow a b) := by
  induction a using pack.induct generalizing b with
  | case1 =>
    have : b = [] := List.length_eq_zero_iff.mp (by simpa using h.symm)
    subst this
    simp [pack_nil, andBytes, andRow]
  | case2 x xs ih =>
    cases b with
    | nil => simp at h
    | cons y ys =>
      have hl : ((x :: xs).drop 8).length = ((y :: ys).drop 8).length := by
        simp only [List.length_drop, h]
      have ih' := ih ((y :: ys).drop 8) hl
      rw [pack_cons x xs, pack_cons y ys, andRow_cons_cons, pack_cons, ← andRow_cons_cons]
      unfold andBytes at ih' ⊢
      rw [List.zipWith_cons_cons, ih', land_byteOfBits]
      unfold andRow
      rw [List.take_zipWith, List.drop_zipWith]

theorem jtPacked_pack (a b : Row) (h : a.length = b.length) :
    jtPacked (pack a) (pack b) = jtBits a b := by
  unfold jtPacked jtBits
  rw [andBytes_pack a b h, popBytes_pack, popBytes_pack, popBytes_pack]

theorem popNat_zero : popNat 0 = 0 := by rw [popNat]

theorem popNat_eq (n : Nat) : popNat n = n % 2 + popNat (n / 2) := by
  cases n with
  | zero => simp [popNat_zero]
  | succ m => rw [popNat]

theorem popNat_twoMulAdd (x : Nat) (a : Bool) : popNat (2 * x + b2n a) = popNat x + b2n a := by
  rw [popNat_eq, twoMulAdd_mod, twoMulAdd_div, Nat.add_comm]

theorem popNat_eq_popByte (b : Nat) (h : b < 256) : popNat b = popByte b := by
  conv => lhs; rw [← byteOfBits_bitsOfByte b h]
  unfold popByte
  rw [bitsOfByte_eq, byteOfBits_eq]
  simp only [List.getD_cons_zero, List.getD_cons_succ, popNat_twoMulAdd, ← popc.eq_1, popc_cons, popNat_zero]
  rw [show popc [] = 0 from rfl]
  omega

theorem popNat_add_pow_mul (k : Nat) : ∀ b acc : Nat, b < 2 ^ k →
    popNat (b + 2 ^ k * acc) = popNat b + popNat acc := by
  induction k with
  | zero =>
    intro b acc hb
    have : b = 0 := by simpa using hb
    subst this
    simp [popNat_zero]
  | succ k ih =>
    intro b acc hb
    rw [Nat.pow_succ, Nat.mul_comm (2 ^ k) 2] at hb
    rw [popNat_eq (b + 2 ^ (k + 1) * acc), popNat_eq b, Nat.pow_succ, Nat.mul_comm (2 ^ k) 2, Nat.mul_assoc,
      Nat.add_mul_mod_self_left, Nat.add_mul_div_left _ _ Nat.two_pos, ih _ _ (Nat.div_lt_of_lt_mul hb),
      Nat.add_assoc]

theorem popNat_wordOfBytes (bs : List Nat) (h : ∀ b ∈ bs, b < 256) :
    popNat (wordOfBytes bs) = popBytes bs := by
  induction bs with
  | nil => simp [wordOfBytes, popBytes, popNat_zero]
  | cons b bs ih =>
    have hb : b < 2 ^ 8 := h b (by simp)
    have := popNat_add_pow_mul 8 b (wordOfBytes bs) hb
    have e : wordOfBytes (b :: bs) = b + 2 ^ 8 * wordOfBytes bs := rfl
    rw [e, this, ih (fun x hx => h x (by simp [hx])), popNat_eq_popByte b hb]
    simp [popBytes]

theorem popBytes_append (a b : List Nat) : popBytes (a ++ b) = popBytes a + popBytes b := by
  simp [popBytes]

theorem chunks_nil (k : Nat) : chunks k [] = [] := by rw [chunks]

theorem chunks_cons (k : Nat) (x : Nat) (xs : List Nat) (hk : k ≠ 0) :
    chunks k (x :: xs) = (x :: xs).take k :: chunks k ((x :: xs).drop k) := by
  rw [chunks, if_neg hk]

theorem popWords_eq_popBytes' (bs : List Nat) (h : ∀ b ∈ bs, b < 256) :
    popWords bs = popBytes bs := by
  unfold popWords
  induction bs using chunks.induct 8 with
  | case1 => simp [chunks_nil, popBytes]
  | case2 x xs hk => exact absurd hk (by decide)
  | case3 x xs _ ih =>
    rw [chunks_cons 8 x xs (by decide), List.map_cons, List.sum_cons,
      ih (fun b hb => h b (List.mem_of_mem_drop hb)),
      popNat_wordOfBytes _ (fun b hb => h b (List.mem_of_mem_take hb)),
      ← popBytes_append, List.take_append_drop]

theorem popWords_eq_popBytes (bs : List Nat) (h : ∀ b ∈ bs, b < 256)
    (_h8 : bs.length % 8 = 0) : popWords bs = popBytes bs :=
  popWords_eq_popBytes' bs h

section Arg

variable {α : Type _} [LinearOrder α] [DecidableLT α]

theorem argmaxFirst_go_cons (best : α) (bi i : Nat) (y : α) (ys : List α) :
    argmaxFirst.go best bi i (y :: ys) =
      if best < y then argmaxFirst.go y i (i + 1) ys else argmaxFirst.go best bi (i + 1) ys :=
  rfl

theorem argmaxFirst_go_spec (ys : List α) : ∀ (best : α) (bi i : Nat),
    (argmaxFirst.go best bi i ys = bi ∧ ∀ y ∈ ys, y ≤ best) ∨
    ∃ k m, argmaxFirst.go best bi i ys = i + k ∧ ys[k]? = some m ∧ best < m ∧
      (∀ y ∈ ys, y ≤ m) ∧ ∀ k' v, k' < k → ys[k']? = some v → v < m := by
  induction ys with
  | nil => intro best bi i; exact Or.inl ⟨rfl, fun _ h => absurd h List.not_mem_nil⟩
  | cons y ys ih =>
    intro best bi i
    rw [argmaxFirst_go_cons]
    -- an earlier position holds either the head `y` or an element of the tail
    have first {k : Nat} {m : α} (hy : y < m) (hfirst : ∀ k' v, k' < k → ys[k']? = some v → v < m) :
        ∀ k' v, k' < k + 1 → (y :: ys)[k']? = some v → v < m := fun k' v hk' hv => by
      cases k' with
      | zero => exact Option.some.inj hv ▸ hy
      | succ k' => exact hfirst k' v (by omega) hv
    split
    · next hlt =>
      right
      rcases ih y i (i + 1) with ⟨hr, hall⟩ | ⟨k, m, hr, hm, hym, hall, hfirst⟩
      · exact ⟨0, y, hr, rfl, hlt, List.forall_mem_cons.mpr ⟨le_rfl, hall⟩, fun _ _ h => absurd h (Nat.not_lt_zero _)⟩
      · exact ⟨k + 1, m, by omega, hm, lt_trans hlt hym, List.forall_mem_cons.mpr ⟨hym.le, hall⟩, first hym hfirst⟩
    · next hge =>
      rcases ih best bi (i + 1) with ⟨hr, hall⟩ | ⟨k, m, hr, hm, hbm, hall, hfirst⟩
      · exact Or.inl ⟨hr, List.forall_mem_cons.mpr ⟨not_lt.mp hge, hall⟩⟩
      · have hym := lt_of_le_of_lt (not_lt.mp hge) hbm
        exact Or.inr ⟨k + 1, m, by omega, hm, hbm, List.forall_mem_cons.mpr ⟨hym.le, hall⟩, first hym hfirst⟩

theorem argmaxFirst_spec (l : List α) (h : l ≠ []) :
    ∃ m, l[argmaxFirst l]? = some m ∧ (∀ y ∈ l, y ≤ m) ∧
      ∀ j v, j < argmaxFirst l → l[j]? = some v → v < m := by
  cases l with
  | nil => exact absurd rfl h
  | cons x xs =>
    rcases argmaxFirst_go_spec xs x 0 1 with ⟨hr, hall⟩ | ⟨k, m, hr, hm, hxm, hall, hfirst⟩
    · rw [show argmaxFirst (x :: xs) = 0 from hr]
      exact ⟨x, rfl, List.forall_mem_cons.mpr ⟨le_rfl, hall⟩, fun _ _ h => absurd h (Nat.not_lt_zero _)⟩
    · rw [show argmaxFirst (x :: xs) = k + 1 from hr.trans (Nat.add_comm 1 k)]
      refine ⟨m, hm, List.forall_mem_cons.mpr ⟨hxm.le, hall⟩, fun j v hj hv => ?_⟩
      cases j with
      | zero => exact Option.some.inj hv ▸ hxm
      | succ j => exact hfirst j v (Nat.lt_of_succ_lt_succ hj) hv

theorem argminFirst_go_eq_dual (l : List α) : ∀ (best : α) (bi i : Nat),
    argminFirst.go best bi i l = argmaxFirst.go (α := αᵒᵈ) best bi i l := by
  induction l with
  | nil => intros; rfl
  | cons y ys ih =>
    intro best bi i
    show (if y < best then _ else _) = (if y < best then _ else _)
    rw [ih, ih]

theorem argminFirst_eq_dual (l : List α) : argminFirst l = argmaxFirst (α := αᵒᵈ) l := by
  cases l with
  | nil => rfl
  | cons x xs => exact argminFirst_go_eq_dual xs x 0 1

theorem argminFirst_spec (l : List α) (h : l ≠ []) :
    ∃ m, l[argminFirst l]? = some m ∧ (∀ y ∈ l, m ≤ y) ∧
      ∀ j v, j < argminFirst l → l[j]? = some v → m < v := by
  rw [argminFirst_eq_dual]
  exact argmaxFirst_spec (α := αᵒᵈ) l h

theorem argmaxFirst_lt (l : List α) (h : l ≠ []) : argmaxFirst l < l.length :=
  have ⟨_, hm, _⟩ := argmaxFirst_spec l h
  (List.getElem?_eq_some_iff.mp hm).1

theorem argmaxFirst_max (l : List α) (j : Nat) (hj : j < l.length) :
    l[j] ≤ l[argmaxFirst l]'(argmaxFirst_lt l (List.ne_nil_of_length_pos (by omega))) := by
  obtain ⟨m, hm, hall, _⟩ := argmaxFirst_spec l (List.ne_nil_of_length_pos (by omega))
  obtain ⟨_, rfl⟩ := List.getElem?_eq_some_iff.mp hm
  exact hall _ (List.getElem_mem _)

theorem ne_nil_of_lt_argmaxFirst {l : List α} {j : Nat} (hj : j < argmaxFirst l) : l ≠ [] := by
  rintro rfl; exact absurd hj (by simp [argmaxFirst])

theorem argmaxFirst_first (l : List α) (j : Nat) (hj : j < argmaxFirst l) :
    l[j]'(lt_trans hj (argmaxFirst_lt l (ne_nil_of_lt_argmaxFirst hj))) <
      l[argmaxFirst l]'(argmaxFirst_lt l (ne_nil_of_lt_argmaxFirst hj)) := by
  obtain ⟨m, hm, _, hfirst⟩ := argmaxFirst_spec l (ne_nil_of_lt_argmaxFirst hj)
  obtain ⟨_, rfl⟩ := List.getElem?_eq_some_iff.mp hm
  exact hfirst j _ hj (List.getElem?_eq_getElem _)

theorem argminFirst_lt (l : List α) (h : l ≠ []) : argminFirst l < l.length :=
  argminFirst_eq_dual l ▸ argmaxFirst_lt (α := αᵒᵈ) l h

theorem argminFirst_min (l : List α) (j : Nat) (hj : j < l.length) :
    l[argminFirst l]'(argminFirst_lt l (List.ne_nil_of_length_pos (by omega))) ≤ l[j] := by
  simp only [argminFirst_eq_dual]
  exact argmaxFirst_max (α := αᵒᵈ) l j hj

theorem ne_nil_of_lt_argminFirst {l : List α} {j : Nat} (hj : j < argminFirst l) : l ≠ [] :=
  ne_nil_of_lt_argmaxFirst (α := αᵒᵈ) (argminFirst_eq_dual l ▸ hj)

theorem argminFirst_first (l : List α) (j : Nat) (hj : j < argminFirst l) :
    l[argminFirst l]'(argminFirst_lt l (ne_nil_of_lt_argminFirst hj)) <
      l[j]'(lt_trans hj (argminFirst_lt l (ne_nil_of_lt_argminFirst hj))) := by
  simp only [argminFirst_eq_dual] at hj ⊢
  exact argmaxFirst_first (α := αᵒᵈ) l j hj

end Arg

theorem jtCounts_nonneg (hm : Monotone rnd) (h0 : rnd 0 = 0) (inter ca cb : Nat) :
    0 ≤ jtCounts inter ca cb := by
  unfold jtCounts fdiv
  calc (0 : ℚ) = rnd 0 := h0.symm
    _ ≤ _ := hm (div_nonneg (Nat.cast_nonneg _) (Nat.cast_nonneg _))

theorem jtCounts_le_one (hm : Monotone rnd) (h1 : rnd 1 = 1) {inter ca cb : Nat}
    (hi : inter ≤ ca) (hi' : inter ≤ cb) : jtCounts inter ca cb ≤ 1 := by
  unfold jtCounts fdiv
  have hden : (inter : ℚ) ≤ ((max (ca + cb - inter) 1 : ℕ) : ℚ) := by
    exact_mod_cast (show inter ≤ max (ca + cb - inter) 1 by omega)
  have hpos : (0 : ℚ) < ((max (ca + cb - inter) 1 : ℕ) : ℚ) := by
    exact_mod_cast (show 0 < max (ca + cb - inter) 1 by omega)
  calc rnd (_ / _) ≤ rnd 1 := hm ((div_le_one hpos).mpr hden)
    _ = 1 := h1

theorem jtCounts_comm (inter ca cb : Nat) : jtCounts inter ca cb = jtCounts inter cb ca := by
  unfold jtCounts; rw [Nat.add_comm]

theorem jtCounts_self (h1 : rnd 1 = 1) (c : Nat) (hc : 0 < c) : jtCounts c c c = 1 := by
  unfold jtCounts fdiv
  have e : max (c + c - c) 1 = c := by omega
  have hne : (c : ℚ) ≠ 0 := by exact_mod_cast hc.ne'
  rw [e, div_self hne, h1]

theorem jtCounts_zero (h0 : rnd 0 = 0) (ca cb : Nat) : jtCounts 0 ca cb = 0 := by
  unfold jtCounts fdiv
  rw [Nat.cast_zero, zero_div, h0]

theorem jtArrVec_length (X : List Row) (y : Row) : (jtArrVec X y).length = X.length := by
  simp [jtArrVec]

theorem jtBits_comm (a b : Row) : jtBits a b = jtBits b a := by
  unfold jtBits; rw [andRow_comm a b, jtCounts_comm]

theorem jtBits_self (h1 : rnd 1 = 1) (a : Row) (h : 0 < popc a) : jtBits a a = 1 := by
  unfold jtBits; rw [andRow_self]; exact jtCounts_self h1 _ h

/-- two empty fingerprints have similarity 0 (`0 / max 0 1`) -/
theorem jtBits_self_of_popc_eq_zero (h0 : rnd 0 = 0) (a : Row) (h : popc a = 0) :
    jtBits a a = 0 := by
  unfold jtBits; rw [andRow_self, h]; exact jtCounts_zero h0 0 0

theorem jtBits_le_one (hm : Monotone rnd) (h1 : rnd 1 = 1) (a b : Row) : jtBits a b ≤ 1 :=
  jtCounts_le_one hm h1 (popc_andRow_le_left a b) (popc_andRow_le_right a b)

theorem jtBits_nonneg (hm : Monotone rnd) (h0 : rnd 0 = 0) (a b : Row) : 0 ≤ jtBits a b :=
  jtCounts_nonneg hm h0 _ _ _

theorem jtPacked_le_one (hm : Monotone rnd) (h1 : rnd 1 = 1) (a b : Row)
    (h : a.length = b.length) : jtPacked (pack a) (pack b) ≤ 1 := by
  rw [jtPacked_pack a b h]; exact jtBits_le_one hm h1 a b

theorem addLs_nil_left (b : List Nat) : addLs [] b = b := by cases b <;> rfl

theorem addLs_nil_right (a : List Nat) : addLs a [] = a := by cases a <;> rfl

theorem addLs_cons_cons (x y : Nat) (a b : List Nat) :
    addLs (x :: a) (y :: b) = (x + y) :: addLs a b := rfl

theorem addLs_replicate_zero (B : List Nat) : addLs (List.replicate B.length 0) B = B := by
  induction B with
  | nil => rfl
  | cons b B ih => rw [List.length_cons, List.replicate_succ, addLs_cons_cons, ih, Nat.zero_add]

theorem addLs_comm (a b : List Nat) : addLs a b = addLs b a := by
  induction a generalizing b with
  | nil => rw [addLs_nil_left, addLs_nil_right]
  | cons x a ih =>
    cases b with
    | nil => rfl
    | cons y b => rw [addLs_cons_cons, addLs_cons_cons, ih b, Nat.add_comm]

theorem addLs_assoc (a b c : List Nat) : addLs (addLs a b) c = addLs a (addLs b c) := by
  induction a generalizing b c with
  | nil => rw [addLs_nil_left, addLs_nil_left]
  | cons x a ih =>
    cases b with
    | nil => rw [addLs_nil_right, addLs_nil_left]
    | cons y b =>
      cases c with
      | nil => rw [addLs_nil_right, addLs_nil_right]
      | cons z c => simp only [addLs_cons_cons, ih, Nat.add_assoc]

theorem addLs_right_comm (a b c : List Nat) : addLs (addLs a b) c = addLs (addLs a c) b := by
  rw [addLs_assoc, addLs_comm b c, ← addLs_assoc]

theorem addLs_length (a b : List Nat) : (addLs a b).length = max a.length b.length := by
  induction a generalizing b with
  | nil => simp [addLs_nil_left]
  | cons x a ih =>
    cases b with
    | nil => simp [addLs_nil_right]
    | cons y b => simp only [addLs_cons_cons, List.length_cons, ih]; omega

theorem wrap_add_wrap (w : W) (x y : Nat) : wrap w (wrap w x + y) = wrap w (x + y) := by
  cases w <;> simp [wrap, W.bits, Nat.add_mod]

theorem addLs_eq_zipWith (a b : List Nat) (h : a.length = b.length) :
    addLs a b = List.zipWith (· + ·) a b := by
  induction a, b, h using length_eq_induction with
  | nil => rfl
  | cons x a y b _ ih => rw [addLs_cons_cons, List.zipWith_cons_cons, ih]

theorem sum_addLs (a b : List Nat) (h : a.length = b.length) : (addLs a b).sum = a.sum + b.sum := by
  induction a, b, h using length_eq_induction with
  | nil => rfl
  | cons x a y b _ ih => rw [addLs_cons_cons, List.sum_cons, List.sum_cons, List.sum_cons, ih]; omega

theorem zipWith_wrap (w : W) (a b : List Nat) (h : a.length = b.length) :
    List.zipWith (fun x y => wrap w (x + y)) a b = (addLs a b).map (wrap w) := by
  rw [addLs_eq_zipWith a b h, List.map_zipWith]

theorem zipWith_wrap_eq (A B : List Nat) (hl : A.length = B.length) :
    List.zipWith (fun x y => wrap .u64 (x + y)) A B = (addLs A B).map u64 :=
  zipWith_wrap .u64 A B hl

theorem zipWith_wrap_add (w : W) (a b : List Nat) (h : a.length = b.length) :
    List.zipWith (fun x y => wrap w (x + y)) (a.map (wrap w)) b = (addLs a b).map (wrap w) := by
  rw [← zipWith_wrap w a b h, List.zipWith_map_left]
  exact congrArg (fun f => List.zipWith f a b) (funext fun x => funext fun y => wrap_add_wrap w x y)

theorem addLs_le (a b : List Nat) (h : a.length = b.length) (n m : Nat) (ha : ∀ k ∈ a, k ≤ n) (hb : ∀ k ∈ b, k ≤ m) :
    ∀ k ∈ addLs a b, k ≤ n + m := by
  rw [addLs_eq_zipWith a b h]
  intro k hk
  obtain ⟨i, hi, rfl⟩ := List.mem_iff_getElem.mp hk
  rw [List.getElem_zipWith]
  exact Nat.add_le_add (ha _ (List.getElem_mem _)) (hb _ (List.getElem_mem _))

theorem addLs_length_eq (a b : List Nat) (h : a.length = b.length) : (addLs a b).length = a.length := by
  rw [addLs_eq_zipWith a b h]; simp [h]

theorem addLs_getD (a b : List Nat) (i : Nat) :
    (addLs a b).getD i 0 = a.getD i 0 + b.getD i 0 := by
  induction a generalizing b i with
  | nil => rw [addLs_nil_left, List.getD_nil, Nat.zero_add]
  | cons x a ih =>
    cases b with
    | nil => rw [addLs_nil_right, List.getD_nil, Nat.add_zero]
    | cons y b =>
      cases i with
      | zero => rfl
      | succ i => exact ih b i

theorem rowToNat_length (r : Row) : (rowToNat r).length = r.length := by
  simp [rowToNat]

theorem getD_of_lt {α : Type _} (l : List α) (d : α) {i : Nat} (h : i < l.length) :
    l.getD i d = l[i] := by
  rw [List.getD_eq_getElem?_getD, List.getElem?_eq_getElem h]; rfl

theorem getD_map {α β : Type _} (f : α → β) (l : List α) (i : Nat) (d : α) :
    (l.map f).getD i (f d) = f (l.getD i d) := by
  simp only [List.getD_eq_getElem?_getD, List.getElem?_map]
  cases l[i]? <;> rfl

theorem rowToNat_getD (r : Row) (i : Nat) :
    (rowToNat r).getD i 0 = if r.getD i false then 1 else 0 :=
  getD_map (fun b : Bool => if b then 1 else 0) r i false

theorem rowToNat_cons (x : Bool) (r : Row) : rowToNat (x :: r) = b2n x :: rowToNat r := rfl

theorem rowToNat_eq (r : Row) : rowToNat r = r.map b2n := rfl

theorem rowToNat_sum (r : Row) : (rowToNat r).sum = popc r := by
  induction r with
  | nil => rfl
  | cons x r ih =>
    rw [rowToNat_cons, List.sum_cons, ih, popc_cons, Nat.add_comm]

theorem rowToNat_sum_le (r : Row) : (rowToNat r).sum ≤ r.length :=
  (rowToNat_sum r).le.trans (popc_le_length r)

theorem rowToNat_ne_zero (r : Row) : (rowToNat r).map (fun k => k != 0) = r := by
  simp only [rowToNat, List.map_map]
  conv => rhs; rw [← List.map_id r]
  apply List.map_congr_left
  intro b _
  cases b <;> simp

theorem colSum_nil : colSum [] = [] := rfl

theorem colSum_snoc (rows : List Row) (r : Row) :
    colSum (rows ++ [r]) = addLs (colSum rows) (rowToNat r) := by
  simp [colSum, List.foldl_append]

theorem foldl_addLs_eq (rows : List Row) (acc : List Nat) :
    rows.foldl (fun acc r => addLs acc (rowToNat r)) acc = addLs acc (colSum rows) := by
  unfold colSum
  induction rows generalizing acc with
  | nil => exact (addLs_nil_right acc).symm
  | cons r rows ih =>
    rw [List.foldl_cons, List.foldl_cons, ih (addLs acc _), ih (addLs [] _), addLs_nil_left, addLs_assoc]

theorem colSum_cons (r : Row) (rows : List Row) :
    colSum (r :: rows) = addLs (rowToNat r) (colSum rows) :=
  (foldl_addLs_eq rows _).trans (congrArg (addLs · _) (addLs_nil_left _))

theorem colSum_append (a b : List Row) : colSum (a ++ b) = addLs (colSum a) (colSum b) := by
  unfold colSum
  rw [List.foldl_append, foldl_addLs_eq]
  rfl

theorem colSum_singleton (r : Row) : colSum [r] = rowToNat r := by
  rw [colSum_cons, colSum_nil, addLs_nil_right]

instance : RightCommutative (fun (acc : List Nat) (r : Row) => addLs acc (rowToNat r)) :=
  ⟨fun a r s => addLs_right_comm a (rowToNat r) (rowToNat s)⟩

theorem colSum_perm {rows rows' : List Row} (h : rows.Perm rows') :
    colSum rows = colSum rows' := by
  unfold colSum
  exact h.foldl_eq []

theorem colSum_length (rows : List Row) (F : Nat) (hF : ∀ r ∈ rows, r.length = F)
    (hne : rows ≠ []) : (colSum rows).length = F := by
  induction rows with
  | nil => exact absurd rfl hne
  | cons r rows ih =>
    rw [colSum_cons, addLs_length, rowToNat_length, hF r (by simp)]
    by_cases h : rows = []
    · subst h; simp [colSum_nil]
    · rw [ih (fun x hx => hF x (by simp [hx])) h]; simp

/-- no hypothesis on the row lengths: `addLs` pads and `getD` reads zeros -/
theorem colSum_getD (rows : List Row) (i : Nat) :
    (colSum rows).getD i 0 = (rows.filter (fun r => r.getD i false)).length := by
  induction rows with
  | nil => simp [colSum_nil]
  | cons r rows ih =>
    rw [colSum_cons, addLs_getD, rowToNat_getD, ih, List.filter_cons]
    split
    · simp; omega
    · simp

theorem colSum_get (rows : List Row) (F : Nat) (_hF : ∀ r ∈ rows, r.length = F) (i : Nat)
    (_hi : i < F) :
    (colSum rows).getD i 0 = (rows.filter (fun r => r.getD i false)).length :=
  colSum_getD rows i

theorem colSum_getD_le (rows : List Row) (i : Nat) : (colSum rows).getD i 0 ≤ rows.length := by
  rw [colSum_getD]; exact List.length_filter_le _ _

theorem centroidFromSum_getD (ls : List Nat) (n : Nat) (hn : 2 ≤ n) (i : Nat) :
    (centroidFromSum ls n).getD i false = decide (n ≤ 2 * ls.getD i 0) := by
  unfold centroidFromSum
  rw [if_neg (by omega)]
  have h0 : decide (n ≤ 2 * 0) = false := by simp; omega
  rw [← h0, getD_map (fun k => decide (n ≤ 2 * k))]

theorem centroidFromSum_length (ls : List Nat) (n : Nat) :
    (centroidFromSum ls n).length = ls.length := by
  unfold centroidFromSum; split <;> simp

theorem centroid_majority' (rows : List Row) (hn : 2 ≤ rows.length) (i : Nat) :
    (centroidFromSum (colSum rows) rows.length).getD i false =
      decide (rows.length ≤ 2 * (rows.filter (fun r => r.getD i false)).length) := by
  rw [centroidFromSum_getD _ _ hn, colSum_getD]

theorem centroid_majority (rows : List Row) (F : Nat) (_hF : ∀ r ∈ rows, r.length = F)
    (hn : 2 ≤ rows.length) (i : Nat) (_hi : i < F) :
    (centroidFromSum (colSum rows) rows.length).getD i false =
      decide (rows.length ≤ 2 * (rows.filter (fun r => r.getD i false)).length) :=
  centroid_majority' rows hn i

theorem centroid_length (rows : List Row) (F : Nat) (hF : ∀ r ∈ rows, r.length = F)
    (hne : rows ≠ []) : (centroidFromSum (colSum rows) rows.length).length = F := by
  rw [centroidFromSum_length, colSum_length rows F hF hne]

end BB
