/-
Two things.  In namespace `BB`, the steps of the API succeed where their side conditions hold (`fit_total`,
`delInternal_total`, `refineGroups_total`, `refine_total`, `reclusterOnce_total`, the criterion names);
BBProofs/CliMulti.lean builds the totality of the multi-round workflow on them.  In `BB.Cli`, the command line
(`BBModel/Cli.lean`): every operation of the `bb run` plan succeeds from the states the plan reaches, and the invariant
is handed on with the exact labelling of the concatenated input files (`cliRun_total`); then what `validateOutputDir`
and `outputNames` compute.  `RunDom` asks for a branching factor ≥ 2 because `EInv.init` does (a well-formed tree has
nodes of capacity ≥ 2); success alone needs 1, which is what `MR.MRDom` asks.
-/
import BBProofs.OpsWF
import BBProofs.Tasks
import BBModel.Cli

namespace BB
variable (pol : Cfg → Policy)

theorem fit_total (P : Policy) (F : Nat) (e : Est) (hlo : e.st.isLeavesOnly = false) (hF : ∀ F', e.st.F? = some F' → F' = F)
    (rows : List Row) (hne : rows ≠ []) (hlen : ∀ r ∈ rows, r.length = F) (labels : Option (List Nat)) :
    ∃ e', fit P e rows labels = (e', none) ∧ e'.st.isLeavesOnly = false ∧
      (labels = none → e'.numFitted = e.numFitted + rows.length) := by
  obtain ⟨r0, rest, rfl⟩ := List.exists_cons_of_ne_nil hne
  have hall : ∀ p ∈ fitLabelled e (r0 :: rest) labels, p.2.length = F := fun p hp =>
    hlen _ (by cases labels <;> exact (List.of_mem_zip hp).2)
  rw [fit_eq P F e r0 rest labels hlo (TreeSt.HasF.getD hF _ (hlen r0 (by simp))), goodPrefix_all F _ hall, if_pos rfl]
  exact ⟨_, rfl, insertAll_isLeavesOnly P _ _ hlo _, fun h => by
    subst h; simp [Est.grow, fitLabelled, Function.comp_def, Clu.ofRow]⟩

theorem delInternal_total (e : Est) (hi : e.st.isInit = true) (hlo : e.st.isLeavesOnly = false) :
    ∃ e', delInternal e = (e', none) := by
  unfold delInternal
  cases hst : e.st with
  | uninit => rw [hst] at hi; simp [TreeSt.isInit] at hi
  | leavesOnly F ls => rw [hst] at hlo; simp [TreeSt.isLeavesOnly] at hlo
  | full h F root chain next => cases h <;> exact ⟨_, rfl⟩

theorem mapM_option_isSome {α β : Type} (f : α → Option β) :
    ∀ (l : List α), (∀ a ∈ l, (f a).isSome) → (l.mapM f).isSome
  | [], _ => by simp
  | a :: l, h => by
    obtain ⟨b, hb⟩ := Option.isSome_iff_exists.mp (h a (by simp))
    obtain ⟨bs, hbs⟩ := Option.isSome_iff_exists.mp (mapM_option_isSome f l (fun x hx => h x (by simp [hx])))
    simp [List.mapM_cons, hb, hbs]

theorem refineGroups_total (bfs : List Clu) (k : Nat) (data : List Row) (im : Nat) (srt : Bool)
    (h : ∀ c ∈ bfs, ∀ id ∈ c.ids, im ≤ id ∧ id < im + data.length) :
    ∃ gs, refineGroups bfs k data im srt = .ok gs := by
  unfold refineGroups
  simp only
  split
  · exact ⟨_, rfl⟩
  · have hs : ((bfs.take k).mapM (fun c => explode data im (if srt then c.ids.mergeSort (· ≤ ·) else c.ids))).isSome := by
      refine mapM_option_isSome _ _ (fun c hc =>
        explode_isSome (fun id => data.getD (id - im) []) data im _ (fun id hid => ?_))
      have hid' : id ∈ c.ids := by
        split at hid
        · exact (List.mem_mergeSort).mp hid
        · exact hid
      obtain ⟨h1, h2⟩ := h c (List.mem_of_mem_take hc) id hid'
      exact ⟨h1, by simp [List.getD_eq_getElem?_getD, List.getElem?_eq_getElem (show id - im < data.length by omega)]⟩
    obtain ⟨us, hus⟩ := Option.isSome_iff_exists.mp hs
    rw [hus]
    exact ⟨_, rfl⟩

theorem refine_total (hpol : ∀ cfg, (pol cfg).Valid) (F : Nat) (Q : Clu → Prop)
    (hunit : ∀ c, Q c → Q c.asUnit) (e : Est) (hinv : EInv F Q e) (hlo : e.st.isLeavesOnly = false)
    (hpos : 0 < e.numFitted) (n : Nat) (data : List Row) (srt : Bool)
    (hdata : ∀ r ∈ data, r.length = F) (hN : e.numFitted ≤ data.length)
    (hqs : ∀ id r, data[id]? = some r → Q (single r id))
    (hmerge : MergeClosed pol Q e.cfg) :
    ∃ e', refine pol e (n : Int) data 0 srt = (e', none) ∧ e'.numFitted = e.numFitted ∧
      e'.st.isLeavesOnly = false := by
  have hi := hinv.isInit_of_pos hpos
  obtain ⟨e0, hdel⟩ := delInternal_total e hi hlo
  have hinv0 : EInv F Q e0 := by simpa only [hdel] using hinv.delInternal
  have hcfg0 : e0.cfg = e.cfg := by simpa only [hdel] using delInternal_cfg e
  have hnum0 : e0.numFitted = e.numFitted := by simpa only [hdel] using delInternal_numFitted e
  unfold refine
  simp only [hi, Bool.not_true, Bool.false_eq_true, ↓reduceIte, hdel]
  rw [if_neg (by omega)]
  obtain ⟨groups, hg⟩ := refineGroups_total e0.st.sortedClus n data 0 srt (by
    intro c hc id hid
    have hlt := hinv0.id_lt ((TreeSt.mem_sortedClus hinv0.ok).mp hc) hid
    rw [hnum0] at hlt
    omega)
  simp only [Int.toNat_natCast, hg]
  -- refitting the groups is one `grow` of a new tree
  rw [refitGroups_refined pol hinv0.ok hinv0.lsLen hdata hg]
  have hcnt := ((einv_iff.mp hinv0).refit_refined (carried_true hpol hunit) hdata
    (fun id r _ hr => hqs id r (by simpa using hr)) (by rw [hcfg0]; exact hmerge) hg).cnt
  exact ⟨_, rfl, by rw [hcnt, Multiset.coe_card, List.length_range, hnum0], insertAll_isLeavesOnly _ _ _ rfl _⟩

theorem reclusterOnce_total (hpol : ∀ cfg, (pol cfg).Valid) (F : Nat) (Q : Clu → Prop)
    (hunit : ∀ c, Q c → Q c.asUnit) (e : Est) (hinv : EInv F Q e)
    (hpos : 0 < e.numFitted) (extra : Rat) (perms : List (Option (List Nat)))
    (hmerge : MergeClosed pol Q { e.cfg with thr := fadd e.cfg.thr extra }) :
    ∃ e', recluster pol e 1 extra perms false = (e', none) ∧ e'.numFitted = e.numFitted ∧
      e'.st.isLeavesOnly = false := by
  have hperm := shuffled_coe hinv.ok perms.head?
  have hstart : ({ (e.reset) with cfg := { e.reset.cfg with thr := fadd e.reset.cfg.thr extra } } : Est)
      = init { e.cfg with thr := fadd e.cfg.thr extra } := rfl
  unfold recluster reclusterLoop
  simp only [hinv.isInit_of_pos hpos, Bool.not_true, Bool.false_and, Bool.false_eq_true, ↓reduceIte, hstart]
  -- the iteration is one `round`: the clusters, regrouped, grown into a new tree
  rw [refitGroups_regrouped pol _ hinv.lsLen hperm]
  simp only [reclusterLoop]
  have hcnt := ((einv_iff.mp hinv).round (carried_true hpol hunit) extra
    ((groupByW_spec _).2.2.trans hperm) hmerge).cnt
  exact ⟨_, rfl, by simpa [Est.round] using hcnt, insertAll_isLeavesOnly _ _ _ rfl _⟩

theorem setMerge_name_total (e : Est) (s : String) (hs : (Crit.ofName? s).isSome) (tol thr : Option Rat) :
    ∃ m, setMerge e (some (.name s)) tol thr none =
      ({ e with cfg := { thr := thr.getD e.cfg.thr, bf := e.cfg.bf, merge := m } }, none) := by
  obtain ⟨c, hc⟩ := Option.isSome_iff_exists.mp hs
  simp [setMerge, selectMerge, hc]

theorem construct_name_total (thr : Rat) (bf : Nat) (s : String) (hs : (Crit.ofName? s).isSome)
    (tol : Option Rat) : ∃ m, construct thr bf (some (.name s)) tol = .ok (init { thr := thr, bf := bf, merge := m }) := by
  obtain ⟨c, hc⟩ := Option.isSome_iff_exists.mp hs
  simp only [construct, selectMerge, hc, Option.getD_some]
  exact ⟨_, rfl⟩

end BB

namespace BB.Cli
open BB
variable (pol : Cfg → Policy)

theorem runStrict_cons_ok {e e' : Est} {op : Op} {ops : List Op} :
    runStrict pol e (op :: ops) = .ok e' ↔ ∃ e1, stepWith pol e op = (e1, none) ∧ runStrict pol e1 ops = .ok e' := by
  simp only [runStrict]
  generalize stepWith pol e op = r
  obtain ⟨e1, _ | x⟩ := r <;> simp

theorem runStrict_append : ∀ (a b : List Op) (e e1 e2 : Est), runStrict pol e a = .ok e1 →
    runStrict pol e1 b = .ok e2 → runStrict pol e (a ++ b) = .ok e2
  | [], _, _, _, _, h1, h2 => by cases h1; exact h2
  | _ :: a, b, _, e1, e2, h1, h2 => by
    obtain ⟨e', hs, h1⟩ := (runStrict_cons_ok pol).mp h1
    exact (runStrict_cons_ok pol).mpr ⟨e', hs, runStrict_append a b e' e1 e2 h1 h2⟩

theorem runStrict_runWith : ∀ (ops : List Op) (e e' : Est), runStrict pol e ops = .ok e' → runWith pol e ops = e'
  | [], _, _, h => by cases h; rfl
  | _ :: ops, _, e', h => by
    obtain ⟨e1, hs, h⟩ := (runStrict_cons_ok pol).mp h
    rw [runWith, List.foldl_cons, hs]
    exact runStrict_runWith ops e1 e' h

theorem runD_append (F : Nat) (D : Nat → Row) : ∀ (a b : List Op) (e : Est), RunD pol F D e a →
    RunD pol F D (runWith pol e a) b → RunD pol F D e (a ++ b)
  | [], _, _, _, h2 => by simpa [runWith] using h2
  | op :: a, b, e, h1, h2 => by
    refine ⟨h1.1, runD_append F D a b _ h1.2 ?_⟩
    simpa [runWith] using h2

/-- a state that accepts further fits and holds exactly the labels `0 .. n-1`, each cluster exact
for the labelling `D` -/
structure Live (F : Nat) (D : Nat → Row) (e : Est) (n : Nat) : Prop where
  inv : EInv F (ExactN D) e
  lo : e.st.isLeavesOnly = false
  num : e.numFitted = n

/-- the outcome of the segment `ops` of the plan, run from `e`: every call succeeds, the segment is consistent with `D`,
and the state reached is live with `n` labels -/
def SegOK (F : Nat) (D : Nat → Row) (e : Est) (ops : List Op) (n : Nat) : Prop :=
  ∃ e', runStrict pol e ops = .ok e' ∧ RunD pol F D e ops ∧ Live F D e' n

theorem SegOK.nil {F : Nat} {D : Nat → Row} {e : Est} {n : Nat} (hl : Live F D e n) : SegOK pol F D e [] n :=
  ⟨e, rfl, trivial, hl⟩

theorem SegOK.append {F : Nat} {D : Nat → Row} {e : Est} {a b : List Op} {n m : Nat}
    (h1 : SegOK pol F D e a n) (h2 : ∀ e1, Live F D e1 n → SegOK pol F D e1 b m) : SegOK pol F D e (a ++ b) m := by
  obtain ⟨e1, r1, d1, l1⟩ := h1
  obtain ⟨e2, r2, d2, l2⟩ := h2 e1 l1
  refine ⟨e2, runStrict_append pol a b e e1 e2 r1 r2, runD_append pol F D a b e d1 ?_, l2⟩
  rw [runStrict_runWith pol a e e1 r1]
  exact d2

theorem SegOK.of_forall {F : Nat} {D : Nat → Row} {n : Nat} : ∀ (ops : List Op) (e : Est),
    (∀ op ∈ ops, ∀ e, Live F D e n → SegOK pol F D e [op] n) → Live F D e n → SegOK pol F D e ops n
  | [], _, _, hl => .nil pol hl
  | op :: ops, e, h, hl => (h op (by simp) e hl).append pol (a := [op])
      (fun e1 hl1 => SegOK.of_forall ops e1 (fun o ho => h o (List.mem_cons_of_mem _ ho)) hl1)

section
variable (hpol : ∀ cfg, (pol cfg).Valid)
include hpol

theorem SegOK.step {F : Nat} {D : Nat → Row} {e e' : Est} {op : Op} {n m : Nat} (hl : Live F D e n)
    (hop : OpD F D e op) (h : stepWith pol e op = (e', none)) (hlo : e'.st.isLeavesOnly = false)
    (hn : e'.numFitted = m) : SegOK pol F D e [op] m := by
  have hinv := hl.inv.step hpol (exactN_asUnit D) (opOK_of_opD hop) (opD_implicit hop)
  rw [h] at hinv
  exact ⟨e', (runStrict_cons_ok pol).mpr ⟨e', h, rfl⟩, ⟨hop, trivial⟩, ⟨hinv, hlo, hn⟩⟩

theorem fitOps_total (F : Nat) (D : Nat → Row) : ∀ (files : List (List Row)) (k : Nat) (e : Est),
    (∀ f ∈ files, f ≠ []) → (∀ f ∈ files, ∀ r ∈ f, r.length = F) → MR.LabelsFrom D k files.flatten → Live F D e k →
    SegOK pol F D e (fitOps files) (k + files.flatten.length)
  | [], k, e, _, _, _, hl => .nil pol hl
  | f :: rest, k, e, hne, hrow, hD, hl => by
    rw [List.flatten_cons] at hD
    have hD' : MR.LabelsFrom D (k + f.length) rest.flatten := fun id r hle hr =>
      hD id r (by omega) (by rwa [List.getElem?_append_right (by omega), Nat.sub_sub])
    obtain ⟨e1, h1, hlo1, hn1⟩ := fit_total (pol e.cfg) F e hl.lo hl.inv.fF f (hne f (by simp)) (hrow f (by simp)) none
    have hseg : SegOK pol F D e [Op.fit f none] (k + f.length) :=
      .step pol hpol hl ⟨rfl, fun r0 h0 => hrow f (by simp) r0 (List.mem_of_mem_head? h0), fun _ i hi _ => by
          rw [hl.num, hD.get (by rw [List.length_append]; omega), List.getElem_append_left hi]⟩
        h1 hlo1 (by rw [hn1 rfl, hl.num])
    rw [List.flatten_cons, List.length_append, ← Nat.add_assoc]
    exact hseg.append pol (a := [_]) (fun e' hl' => fitOps_total F D rest _ e' (fun g hg => hne g (by simp [hg]))
      (fun g hg => hrow g (by simp [hg])) hD' hl')

theorem refineSection_total (F : Nat) (D : Nat → Row) (files : List (List Row)) (hpos : 0 < files.flatten.length)
    (hrow : ∀ r ∈ files.flatten, r.length = F) (hD : MR.LabelsFrom D 0 files.flatten)
    (o : RunOpts) (hrc : (Crit.ofName? o.refineCrit).isSome)
    (perms : List (Option (List Nat))) (e : Est) (hl : Live F D e files.flatten.length) :
    SegOK pol F D e (refineSection o files perms) files.flatten.length := by
  unfold refineSection
  split
  · apply SegOK.of_forall pol _ _ _ hl
    intro op hop e hl
    have hp : 0 < e.numFitted := by rw [hl.num]; exact hpos
    simp only [setMergeOp, refineOps, reclusterOps, List.mem_append, List.mem_singleton, List.mem_replicate,
      List.mem_map] at hop
    rcases hop with (rfl | ⟨_, rfl⟩) | ⟨j, _, rfl⟩
    · obtain ⟨m, hm⟩ := setMerge_name_total e o.refineCrit hrc (some o.tol) (some (fadd o.thr o.chg))
      exact .step pol hpol hl (fun b' hb' => by simp at hb') hm hl.lo hl.num
    · obtain ⟨e1, h1, hn1, hlo1⟩ := refine_total pol hpol F (ExactN D) (exactN_asUnit _) e hl.inv hl.lo hp
        (normRounds o).2 files.flatten true hrow (by rw [hl.num])
        (fun id r hr => by rw [← hD id r (Nat.zero_le _) hr]; exact ⟨exact_ofBuffer_singleton _ id, le_refl 1⟩)
        (mergeClosed_exactN pol _ _)
      exact .step pol hpol hl ⟨hrow, fun id r h0 hr => (hD id r h0 hr).symm⟩ h1 hlo1 (by rw [hn1, hl.num])
    · obtain ⟨e1, h1, hn1, hlo1⟩ := reclusterOnce_total pol hpol F (ExactN D) (exactN_asUnit _) e hl.inv hp 0
        [perms.getD j none] (mergeClosed_exactN pol _ _)
      exact .step pol hpol hl trivial h1 hlo1 (by rw [hn1, hl.num])
  · exact .nil pol hl

end

/-- the documented domain of `bb run` -/
structure RunDom (o : RunOpts) (files : List (List Row)) (F : Nat) : Prop where
  crit : (Crit.ofName? o.crit).isSome
  refineCrit : (Crit.ofName? o.refineCrit).isSome
  bf : 2 ≤ o.bf
  atLeastOne : files ≠ []
  nonempty : ∀ f ∈ files, f ≠ []
  width : ∀ f ∈ files, ∀ r ∈ f, r.length = F

theorem flatten_pos (files : List (List Row)) (h0 : files ≠ []) (hne : ∀ f ∈ files, f ≠ []) :
    0 < files.flatten.length := by
  obtain ⟨f, fs, rfl⟩ := List.exists_cons_of_ne_nil h0
  have := List.length_pos_of_ne_nil (hne f (by simp))
  simp only [List.flatten_cons, List.length_append]
  omega

/-- the state `bb run` reports from is the API history `construct` + `runPlan`, consistent with the labelling
"label `i` = row `i` of the concatenated files" -/
theorem cliRun_total (hpol : ∀ cfg, (pol cfg).Valid) (o : RunOpts) (files : List (List Row))
    (perms : List (Option (List Nat))) (F : Nat) (hd : RunDom o files F) :
    ∃ e0 e, construct o.thr o.bf (some (.name o.crit)) (some o.tol) = .ok e0 ∧
      cliRun pol o files perms = .ok e ∧ e = runWith pol e0 (runPlan o files perms) ∧
      RunD pol F (MR.dataOf files) e0 (runPlan o files perms) ∧
      EInv F (ExactN (MR.dataOf files)) e ∧ e.numFitted = files.flatten.length := by
  obtain ⟨m, hm⟩ := construct_name_total o.thr o.bf o.crit hd.crit (some o.tol)
  have hpos := flatten_pos files hd.atLeastOne hd.nonempty
  have hrow : ∀ r ∈ files.flatten, r.length = F := fun r hr => by
    obtain ⟨f, hf, hrf⟩ := List.mem_flatten.mp hr
    exact hd.width f hf r hrf
  have hD := MR.labelsFrom_dataOf files
  -- everything before `delete_internal_nodes` is a segment between live states
  obtain ⟨e1, r1, d1, l1⟩ : SegOK pol F (MR.dataOf files) (init { thr := o.thr, bf := o.bf, merge := m })
      (fitOps files ++ refineSection o files perms) files.flatten.length := by
    have := fitOps_total pol hpol F (MR.dataOf files) files 0 _ hd.nonempty hd.width hD
      ⟨EInv.init F _ { thr := o.thr, bf := o.bf, merge := m } hd.bf, rfl, rfl⟩
    rw [Nat.zero_add] at this
    exact this.append pol (fun e1 hl1 => refineSection_total pol hpol F _ files hpos hrow hD o hd.refineCrit perms e1 hl1)
  obtain ⟨e2, hdel⟩ := delInternal_total e1 (l1.inv.isInit_of_pos (by rw [l1.num]; exact hpos)) l1.lo
  have hrun := runStrict_append pol _ [.delInternal] _ _ _ r1 ((runStrict_cons_ok pol).mpr ⟨e2, hdel, rfl⟩)
  obtain rfl : (delInternal e1).1 = e2 := by rw [hdel]
  refine ⟨_, (delInternal e1).1, hm, ?_, (runStrict_runWith pol _ _ _ hrun).symm,
    runD_append pol F _ _ _ _ d1 ⟨trivial, trivial⟩, l1.inv.delInternal, ?_⟩
  · simp only [cliRun, hm]
    exact hrun
  · rw [delInternal_numFitted e1, l1.num]

/-- validation passes only into the empty directory, and past a non-empty one only with `--overwrite` -/
theorem validateOutputDir_ok {entries : List String} {ow : Bool} {d : List String}
    (h : validateOutputDir entries ow = .ok d) : d = [] ∧ (entries ≠ [] → ow = true) := by
  unfold validateOutputDir at h
  split at h
  · rename_i he
    cases h
    exact ⟨rfl, fun hne => absurd (List.isEmpty_iff.mp he) hne⟩
  · split at h
    · rename_i how
      cases h
      exact ⟨rfl, fun _ => how⟩
    · cases h

/-- the four combinations of `--save-centroids` and `--save-tree` -/
theorem outputNames_cases (o : RunOpts) :
    (outputNames o).Nodup ∧ "clusters.pkl" ∈ outputNames o ∧
    ("cluster-centroids-packed.pkl" ∈ outputNames o ↔ o.saveCentroids = true) ∧
    ("bitbirch.pkl" ∈ outputNames o ↔ o.saveTree = true) := by
  unfold outputNames
  cases o.saveCentroids <;> cases o.saveTree <;> decide

def exampleOpts : RunOpts :=
  { bf := 50, thr := 13/20, chg := 0, tol := 1/20, crit := "diameter", refineCrit := "tolerance-diameter",
    refineNum := 0, refineRounds := some 2, reclusterRounds := 2, saveCentroids := true, saveTree := false,
    overwrite := true }

def exampleFiles : List (List Row) :=
  [[[true, false, true], [true, true, false]], [[false, false, true]], [[true, true, true], [false, true, false]]]

end BB.Cli
